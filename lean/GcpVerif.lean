import GcpVerif.Model.ME
import GcpVerif.Spec.ME
import GcpVerif.Driver.Common
import GcpVerif.Driver.ME
import GcpVerif.Proofs.Lists
import GcpVerif.Proofs.MEBasic
import GcpVerif.Proofs.MEInv
import GcpVerif.Proofs.MEStep
import GcpVerif.Proofs.ME2
import GcpVerif.Proofs.ME
import GcpVerif.Proofs.ME3
import GcpVerif.Proofs.ME4
import GcpVerif.Proofs.ME5
import GcpVerif.Proofs.ME6
import GcpVerif.Proofs.ME7
import GcpVerif.Proofs.MEApi
import GcpVerif.Proofs.METell
import GcpVerif.Proofs.GME4
import GcpVerif.Model.Pool
import GcpVerif.Spec.Pool
import GcpVerif.Driver.Pool
import GcpVerif.Proofs.AList
import GcpVerif.Model.Checksum
import GcpVerif.Generated.Consts
import GcpVerif.Driver.Checksum
import GcpVerif.Proofs.Checksum
import GcpVerif.Model.KeyPath
import GcpVerif.Driver.KeyPath
import GcpVerif.Proofs.KeyPath
import GcpVerif.Proofs.PoolLocal
import GcpVerif.Proofs.PoolStreams
import GcpVerif.Proofs.PoolCounts
import GcpVerif.Proofs.PoolTables
import GcpVerif.Proofs.PoolPublish
import GcpVerif.Proofs.PoolAddrs
import GcpVerif.Proofs.PoolValid
import GcpVerif.Proofs.PoolSlots
import GcpVerif.Proofs.PoolInitial
import GcpVerif.Proofs.PoolEqs
import GcpVerif.Proofs.PoolStages
import GcpVerif.Proofs.PoolReady
import GcpVerif.Proofs.PoolLoad
import GcpVerif.Proofs.PoolDetector
import GcpVerif.Proofs.PoolStale
import GcpVerif.Proofs.PoolKeys
import GcpVerif.Proofs.PoolAffinity
import GcpVerif.Proofs.PoolFallback
import GcpVerif.Proofs.PoolRefresh
import GcpVerif.Proofs.PoolRR
import GcpVerif.Proofs.PoolRRWait
import GcpVerif.Proofs.PoolHold
import GcpVerif.Model.Prober
import GcpVerif.Driver.Prober
import GcpVerif.Proofs.Prober
import GcpVerif.Proofs.F53
import GcpVerif.Model.Config
import GcpVerif.Driver.Config
import GcpVerif.Proofs.Config
import GcpVerif.Proofs.ConfigJson
import GcpVerif.Proofs.Ties
import GcpVerif.Model.Stream
import GcpVerif.Driver.Stream
import GcpVerif.Proofs.Stream
import GcpVerif.Model.GME
import GcpVerif.Driver.GME
import GcpVerif.Proofs.GME
import GcpVerif.Proofs.GME2
import GcpVerif.Proofs.GME3
import GcpVerif.Proofs.Monitor
import GcpVerif.Proofs.Tas
import GcpVerif.Model.Sync
import GcpVerif.Generated.Accesses
import GcpVerif.Proofs.Sync
import GcpVerif.Proofs.SyncOrder
import GcpVerif.Proofs.PickAtomic
import GcpVerif.Proofs.Atomic
import GcpVerif.Proofs.Enforce
import GcpVerif.Proofs.Widths
