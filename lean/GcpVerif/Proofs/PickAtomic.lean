/-
C02, per run: the model treats "scan the ready list for the least-loaded channel, then increment its
stream count" as one atomic step of a pick — also with respect to picks on other (superseded) pickers,
because the counters belong to the balancer's channels, not to a picker.  That is what the balancer's
pick mutex `gb.pickMu` provides (F31; a mutex per picker, as before F31, serialises only the picks on one
picker), as long as it is taken *exclusively* around the scan.  This obligation is re-checked on every
run against the access table extracted from the current sources (tools/extract): every read of a stream
counter by the scan happens with `gb.pickMu` certainly held in write mode.
-/
import GcpVerif.Model.Sync
import GcpVerif.Generated.Accesses
namespace GcpVerif.Sync

def scanExclusive (accs : List Access) : Bool :=
  accs.all fun a => !(a.field == "streamsCnt" && !a.write) || a.w.contains "gb.pickMu"

/-- every access to a stream counter — the scan's reads, the increment of a placement (least-loaded or
    round-robin), the decrement of a completion — holds the pick mutex (F39) -/
def countersUnderPickMu (accs : List Access) : Bool :=
  accs.all fun a => a.field != "streamsCnt" || a.w.contains "gb.pickMu"

/-- **C02 (per run, F39)** the stream counters change only under the pick mutex: the scan sees one state
    of all of them, and "scan, then count the new stream" is one atomic step with respect to completions
    and round-robin placements too -/
theorem c02_counters_under_pick_mutex : countersUnderPickMu GcpVerif.Generated.accesses = true := by decide +kernel

theorem scanExclusive_of_counters {accs : List Access} (h : countersUnderPickMu accs = true) :
    scanExclusive accs = true := by
  simp only [countersUnderPickMu, scanExclusive, List.all_eq_true] at h ⊢
  -- the scan's reads are among the accesses to the counters
  exact fun a ha => (by decide : ∀ e w p : Bool, (!e || p) = true → (!(e && !w) || p) = true) _ _ _ (h a ha)

/-- **C02 (per run)** the least-loaded scan runs under the exclusively held balancer-wide pick mutex -/
theorem c02_scan_exclusive : scanExclusive GcpVerif.Generated.accesses = true :=
  scanExclusive_of_counters c02_counters_under_pick_mutex

/-- non-vacuity: the table does contain such reads -/
theorem c02_scan_present : (GcpVerif.Generated.accesses.any fun a => a.field == "streamsCnt" && !a.write) = true := by
  decide +kernel

end GcpVerif.Sync
