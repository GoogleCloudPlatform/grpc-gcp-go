/-
Association-list lemmas for the pool model (`lookup`, `insert`, `erase` of Model/Pool.lean).
-/
import GcpVerif.Model.Pool
import GcpVerif.Proofs.Lists
namespace GcpVerif.Pool

variable {α β : Type} [DecidableEq α]

def keys (l : List (α × β)) : List α := l.map (·.1)

theorem lookup_nil (k : α) : lookup ([] : List (α × β)) k = none := rfl

theorem lookup_cons (p : α × β) (l : List (α × β)) (k : α) :
    lookup (p :: l) k = if p.1 == k then some p.2 else lookup l k := by
  unfold lookup
  rw [List.find?_cons]
  cases p.1 == k <;> rfl

theorem lookup_append (a b : List (α × β)) (k : α) :
    lookup (a ++ b) k = (lookup a k).or (lookup b k) := by
  unfold lookup
  rw [List.find?_append, Option.map_or]

omit [DecidableEq α] in
theorem keys_cons (p : α × β) (l : List (α × β)) : keys (p :: l) = p.1 :: keys l := rfl

theorem lookup_eq_none {l : List (α × β)} {k : α} : lookup l k = none ↔ k ∉ keys l := by
  unfold lookup keys
  rw [Option.map_eq_none_iff, List.find?_eq_none, List.mem_map]
  exact ⟨fun h ⟨p, hp, e⟩ => h p hp (beq_iff_eq.mpr e), fun h p hp e => h ⟨p, hp, eq_of_beq e⟩⟩

theorem lookup_isSome {l : List (α × β)} {k : α} : (lookup l k).isSome ↔ k ∈ keys l := by
  rw [← Option.ne_none_iff_isSome, Ne, lookup_eq_none, Classical.not_not]

theorem mem_keys_of_lookup {l : List (α × β)} {k : α} {v : β} (h : lookup l k = some v) : k ∈ keys l :=
  lookup_isSome.mp (by rw [h]; rfl)

theorem exists_lookup_of_mem_keys {l : List (α × β)} {k : α} (h : k ∈ keys l) : ∃ v, lookup l k = some v :=
  Option.isSome_iff_exists.mp (lookup_isSome.mpr h)

theorem lookup_some_mem {l : List (α × β)} {k : α} {v : β} (h : lookup l k = some v) : (k, v) ∈ l := by
  obtain ⟨p, hp, rfl⟩ := Option.map_eq_some_iff.mp h
  rw [← eq_of_beq (List.find?_some (p := fun p : α × β => p.1 == k) hp)]
  exact List.mem_of_find?_eq_some hp

theorem erase_cons (p : α × β) (l : List (α × β)) (k : α) :
    erase (p :: l) k = if p.1 == k then erase l k else p :: erase l k := by
  unfold erase
  rw [List.filter_cons]
  cases p.1 == k <;> rfl

theorem erase_append (a b : List (α × β)) (k : α) : erase (a ++ b) k = erase a k ++ erase b k :=
  List.filter_append ..

theorem mem_erase {l : List (α × β)} {k : α} {p : α × β} : p ∈ erase l k ↔ p ∈ l ∧ p.1 ≠ k := by
  unfold erase
  rw [List.mem_filter, Bool.not_eq_true', beq_eq_false_iff_ne]

theorem erase_of_not_mem {l : List (α × β)} {k : α} (h : k ∉ keys l) : erase l k = l :=
  List.filter_eq_self.mpr fun p hp => by
    rw [Bool.not_eq_true', beq_eq_false_iff_ne]
    exact fun e => h (e ▸ List.mem_map_of_mem hp)

theorem keys_erase (l : List (α × β)) (k : α) : keys (erase l k) = (keys l).filter (fun x => !(x == k)) := by
  unfold keys erase
  rw [List.filter_map]
  rfl

theorem mem_keys_erase_iff {l : List (α × β)} {k x : α} : x ∈ keys (erase l k) ↔ x ∈ keys l ∧ x ≠ k := by
  rw [keys_erase, List.mem_filter, Bool.not_eq_true', beq_eq_false_iff_ne]

theorem mem_keys_erase {l : List (α × β)} {k x : α} (h : x ∈ keys (erase l k)) : x ∈ keys l :=
  (mem_keys_erase_iff.mp h).1

theorem nodup_erase {l : List (α × β)} (h : (keys l).Nodup) (k : α) : (keys (erase l k)).Nodup := by
  rw [keys_erase]; exact h.filter _

theorem lookup_erase_self (l : List (α × β)) (k : α) : lookup (erase l k) k = none := by
  rw [lookup_eq_none, keys_erase, List.mem_filter, beq_self_eq_true]
  exact fun h => Bool.noConfusion h.2

theorem lookup_erase_ne (l : List (α × β)) {k k' : α} (h : k ≠ k') : lookup (erase l k) k' = lookup l k' := by
  induction l with
  | nil => rfl
  | cons p l ih =>
    rw [erase_cons, lookup_cons]
    cases hb : p.1 == k
    · show lookup (p :: erase l k) k' = _
      rw [lookup_cons, ih]
    · show lookup (erase l k) k' = _
      rw [ih, if_neg]
      rw [← eq_of_beq hb] at h
      exact fun e => h (eq_of_beq e)

theorem lookup_erase (l : List (α × β)) (k k' : α) :
    lookup (erase l k) k' = if k = k' then none else lookup l k' := by
  by_cases h : k = k'
  · rw [if_pos h, ← h, lookup_erase_self]
  · rw [if_neg h, lookup_erase_ne l h]

theorem lookup_erase_eq_some {l : List (α × β)} {k k' : α} {v : β} :
    lookup (erase l k) k' = some v ↔ k ≠ k' ∧ lookup l k' = some v := by
  rw [lookup_erase]
  by_cases h : k = k'
  · rw [if_pos h]; exact ⟨nofun, fun h' => absurd h h'.1⟩
  · rw [if_neg h]; exact ⟨fun h' => ⟨h, h'⟩, fun h' => h'.2⟩

theorem any_key {l : List (α × β)} {k : α} : (l.any fun p => p.1 == k) = true ↔ k ∈ keys l := by
  rw [← lookup_isSome, lookup, Option.isSome_map, List.find?_isSome, List.any_eq_true]

theorem insert_of_mem {l : List (α × β)} {k : α} (h : k ∈ keys l) (v : β) :
    insert l k v = l.map fun p => if p.1 == k then (k, v) else p :=
  if_pos (any_key.mpr h)

theorem insert_of_not_mem {l : List (α × β)} {k : α} (h : k ∉ keys l) (v : β) :
    insert l k v = l ++ [(k, v)] :=
  if_neg (mt any_key.mp h)

theorem fst_overwrite (k : α) (v : β) (p : α × β) : (if p.1 == k then (k, v) else p).1 = p.1 := by
  cases hb : p.1 == k
  · rfl
  · exact (eq_of_beq hb).symm

theorem keys_insert_of_mem {l : List (α × β)} {k : α} (h : k ∈ keys l) (v : β) :
    keys (insert l k v) = keys l := by
  rw [insert_of_mem h]
  unfold keys
  rw [List.map_map]
  exact List.map_congr_left fun p _ => fst_overwrite k v p

theorem keys_insert_of_not_mem {l : List (α × β)} {k : α} (h : k ∉ keys l) (v : β) :
    keys (insert l k v) = keys l ++ [k] := by
  rw [insert_of_not_mem h]
  exact List.map_append ..

theorem mem_keys_insert {l : List (α × β)} {k k' : α} {v : β} :
    k' ∈ keys (insert l k v) ↔ k' = k ∨ k' ∈ keys l := by
  by_cases h : k ∈ keys l
  · rw [keys_insert_of_mem h]
    exact ⟨Or.inr, fun h' => h'.elim (fun e => e ▸ h) id⟩
  · rw [keys_insert_of_not_mem h, List.mem_append, List.mem_singleton]
    exact Or.comm

theorem mem_insert {l : List (α × β)} {k : α} {v : β} {p : α × β} (h : p ∈ insert l k v) :
    p ∈ l ∨ p = (k, v) := by
  by_cases hk : k ∈ keys l
  · rw [insert_of_mem hk] at h
    obtain ⟨q, hq, he⟩ := List.mem_map.mp h
    by_cases hb : (q.1 == k) = true
    · exact .inr ((if_pos hb).symm.trans he).symm
    · exact .inl (((if_neg hb).symm.trans he) ▸ hq)
  · rw [insert_of_not_mem hk] at h
    exact (List.mem_append.mp h).imp_right List.mem_singleton.mp

theorem nodup_insert {l : List (α × β)} (h : (keys l).Nodup) (k : α) (v : β) :
    (keys (insert l k v)).Nodup := by
  by_cases hk : k ∈ keys l
  · rw [keys_insert_of_mem hk]; exact h
  · rw [keys_insert_of_not_mem hk, List.nodup_append]
    exact ⟨h, List.pairwise_singleton _ k, fun a ha b hb e => hk (List.mem_singleton.mp hb ▸ e ▸ ha)⟩

theorem lookup_insert_self (l : List (α × β)) (k : α) (v : β) : lookup (insert l k v) k = some v := by
  by_cases hk : k ∈ keys l
  · rw [insert_of_mem hk]
    induction l with
    | nil => cases hk
    | cons p l ih =>
      rw [List.map_cons, lookup_cons]
      cases hb : p.1 == k
      · rw [keys_cons, List.mem_cons] at hk
        exact (if_neg (ne_true_of_eq_false hb)).trans
          (ih (hk.resolve_left fun e => by rw [e, beq_self_eq_true] at hb; cases hb))
      · exact if_pos (beq_self_eq_true k)
  · rw [insert_of_not_mem hk, lookup_append, lookup_eq_none.mpr hk, Option.none_or, lookup_cons]
    exact if_pos (beq_self_eq_true k)

theorem lookup_insert_ne (l : List (α × β)) {k k' : α} (v : β) (h : k ≠ k') :
    lookup (insert l k v) k' = lookup l k' := by
  have hb' : ¬ (k == k') = true := fun e => h (eq_of_beq e)
  by_cases hk : k ∈ keys l
  · rw [insert_of_mem hk]
    clear hk
    induction l with
    | nil => rfl
    | cons p l ih =>
      rw [List.map_cons, lookup_cons, lookup_cons, ih]
      cases hb : p.1 == k
      · rfl
      · rw [eq_of_beq hb]
        exact (if_neg hb').trans (if_neg hb').symm
  · rw [insert_of_not_mem hk, lookup_append, lookup_cons, if_neg hb']
    exact Option.or_none

theorem lookup_insert (l : List (α × β)) (k k' : α) (v : β) :
    lookup (insert l k v) k' = if k = k' then some v else lookup l k' := by
  by_cases h : k = k'
  · rw [if_pos h, ← h, lookup_insert_self]
  · rw [if_neg h, lookup_insert_ne l v h]

theorem erase_insert_self (l : List (α × β)) (k : α) (v : β) : erase (insert l k v) k = erase l k := by
  by_cases hk : k ∈ keys l
  · rw [insert_of_mem hk]
    clear hk
    induction l with
    | nil => rfl
    | cons p l ih =>
      rw [List.map_cons, erase_cons, erase_cons, ih, fst_overwrite]
      cases p.1 == k <;> rfl
  · rw [insert_of_not_mem hk, erase_append, erase_cons, if_pos (beq_self_eq_true k)]
    exact List.append_nil _

theorem lookup_of_mem {l : List (α × β)} (h : (keys l).Nodup) {k : α} {v : β} (hm : (k, v) ∈ l) :
    lookup l k = some v :=
  congrArg (Option.map Prod.snd) (find?_fst_of_nodup h hm)

theorem perm_cons_filter_ne {γ κ : Type} [DecidableEq κ] {f : γ → κ} {l : List γ} (hnd : (l.map f).Nodup) {a : γ}
    (ha : a ∈ l) : l.Perm (a :: l.filter fun x => f x != f a) := by
  induction l with
  | nil => cases ha
  | cons x xs ih =>
    rw [List.map_cons, List.nodup_cons] at hnd
    rw [List.filter_cons]
    rcases List.mem_cons.mp ha with rfl | ha
    · -- the head is `a`; no other element has its key
      have hrest : (xs.filter fun x => f x != f a) = xs :=
        List.filter_eq_self.mpr fun y hy => bne_iff_ne.mpr fun e => hnd.1 (e ▸ List.mem_map_of_mem hy)
      rw [if_neg (ne_true_of_eq_false (bne_self_eq_false _)), hrest]
    · have hne : (f x != f a) = true := bne_iff_ne.mpr fun e => hnd.1 (e ▸ List.mem_map_of_mem ha)
      rw [if_pos hne]
      exact ((ih hnd.2 ha).cons x).trans (List.Perm.swap ..)

theorem perm_erase_append {l : List (α × β)} (hnd : (keys l).Nodup) {k : α} {v : β}
    (hl : lookup l k = some v) : l.Perm (erase l k ++ [(k, v)]) :=
  (perm_cons_filter_ne (f := fun p : α × β => p.1) hnd (lookup_some_mem hl)).trans
    (List.perm_append_singleton _ _).symm

theorem mem_keys_insert_erase {l : List (α × β)} {a b x : α} {v : β} :
    x ∈ keys (insert (erase l a) b v) ↔ x = b ∨ (x ∈ keys l ∧ x ≠ a) := by
  rw [mem_keys_insert, mem_keys_erase_iff]

theorem length_erase_mem {l : List (α × β)} (hnd : (keys l).Nodup) {k : α} (hk : k ∈ keys l) :
    (erase l k).length + 1 = l.length := by
  obtain ⟨v, hv⟩ := exists_lookup_of_mem_keys hk
  rw [(perm_erase_append hnd hv).length_eq, List.length_append]
  rfl

theorem length_insert_fresh {l : List (α × β)} {k : α} (hk : k ∉ keys l) (v : β) :
    (insert l k v).length = l.length + 1 := by
  rw [insert_of_not_mem hk, List.length_append]; rfl

theorem lookup_foldl_insert (ks : List α) (v : β) (m : List (α × β)) (k : α) :
    lookup (ks.foldl (fun m x => insert m x v) m) k = if k ∈ ks then some v else lookup m k := by
  induction ks generalizing m with
  | nil => rfl
  | cons x xs ih =>
    rw [List.foldl_cons, ih, lookup_insert]
    by_cases h1 : k ∈ xs
    · rw [if_pos h1, if_pos (List.mem_cons_of_mem _ h1)]
    · rw [if_neg h1]
      by_cases h2 : x = k
      · rw [if_pos h2, if_pos (List.mem_cons.mpr (Or.inl h2.symm))]
      · rw [if_neg h2, if_neg fun h => (List.mem_cons.mp h).elim (fun e => h2 e.symm) h1]

end GcpVerif.Pool
