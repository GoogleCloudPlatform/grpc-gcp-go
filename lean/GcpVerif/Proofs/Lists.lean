/-
`List.eraseDups` (the model's "drop later repetitions") and `Nodup`: facts core does not have, shared by the
MultiEndpoint API (endpoint lists) and the configuration tables (JSON field names).
-/
namespace GcpVerif

variable {α : Type} [BEq α]

theorem eraseDups_isEmpty (l : List α) : l.eraseDups.isEmpty = l.isEmpty := by
  cases l with
  | nil => rfl
  | cons a as => rw [List.eraseDups_cons]; rfl

theorem eraseDups_sublist : ∀ (l : List α), l.eraseDups.Sublist l
  | [] => by rw [List.eraseDups_nil]; exact .slnil
  | a :: as => by
    rw [List.eraseDups_cons]
    exact ((eraseDups_sublist _).trans List.filter_sublist).cons_cons a
termination_by l => l.length
decreasing_by exact Nat.lt_succ_of_le (List.length_filter_le _ _)

variable [LawfulBEq α]

theorem nodup_eraseDups : ∀ (l : List α), l.eraseDups.Nodup
  | [] => by simp
  | a :: as => by
    rw [List.eraseDups_cons, List.nodup_cons]
    exact ⟨fun hm => by simpa using List.mem_eraseDups.mp hm, nodup_eraseDups _⟩
termination_by l => l.length
decreasing_by exact Nat.lt_succ_of_le (List.length_filter_le _ _)

theorem eraseDups_of_nodup {l : List α} (h : l.Nodup) : l.eraseDups = l := by
  induction l with
  | nil => rfl
  | cons a as ih =>
    rw [List.nodup_cons] at h
    have hf : as.filter (fun b => !b == a) = as :=
      List.filter_eq_self.2 fun b hb => by simpa using fun e : b = a => h.1 (e ▸ hb)
    rw [List.eraseDups_cons, hf, ih h.2]

theorem nodup_of_eraseDups_length {l : List α} (h : l.eraseDups.length = l.length) : l.Nodup :=
  (eraseDups_sublist l).eq_of_length h ▸ nodup_eraseDups l

/-- in a table without repeated keys an entry is found under its key -/
theorem find?_fst_of_nodup {β : Type} {l : List (α × β)} (hn : (l.map (·.1)).Nodup)
    {p : α × β} (hp : p ∈ l) : l.find? (fun q => q.1 == p.1) = some p := by
  induction l with
  | nil => cases hp
  | cons q l ih =>
    rw [List.map_cons, List.nodup_cons] at hn
    rw [List.find?_cons]
    rcases List.mem_cons.1 hp with rfl | hp
    · rw [beq_self_eq_true]
    · have : (q.1 == p.1) = false :=
        beq_eq_false_iff_ne.2 fun e => hn.1 (e ▸ List.mem_map_of_mem (f := (·.1)) hp)
      rw [this]
      exact ih hn.2 hp

end GcpVerif
