/-
C06 — `enforceMinSize` against an arbitrary connection factory.

The pool model's factory fails for the next N creations or not at all.  Here the factory is any function
`f : Nat → Bool` (the i-th call of `NewSubConn` during this loop succeeds iff `f i`): a ClientConn that
starts to fail in the middle of the loop, fails every other time, …  The loop of the Go code,

    for len(gb.scRefs) < min { if !gb.addSubConn() { break } }

(shape checked per run: `enforce_loop_shape`) is `loop`; `loop_done`: for every factory it stops after at
most `min - len` calls, with the pool at its minimum size or at the first failed creation — never above
`min`.  `loopKeepGoing` is the variant that stops at a failure only while the pool is still empty (seeded
change R10-C06-m2): against the factory that works once and then fails it makes as many calls as it is
given fuel for (`keepGoing_spins`).
-/
import GcpVerif.Generated.Consts
namespace GcpVerif.Enforce

/-- (pool size, factory calls made) after the loop; `fuel` bounds the number of iterations -/
def loop (min : Nat) (f : Nat → Bool) : (fuel len calls : Nat) → Nat × Nat
  | 0, len, calls => (len, calls)
  | fuel + 1, len, calls =>
    if len < min then
      if f calls then loop min f fuel (len + 1) (calls + 1) else (len, calls + 1)
    else (len, calls)

/-- the loop has come to rest: the guard is false or the last creation failed -/
def Rest (min : Nat) (f : Nat → Bool) (len calls : Nat) : Prop :=
  min ≤ len ∨ (0 < calls ∧ f (calls - 1) = false)

/-- **every factory**: `min - len` iterations are enough; the loop makes at most that many calls, ends at
    rest, and never takes the pool above `min` (or above where it was) -/
theorem loop_done (min : Nat) (f : Nat → Bool) (fuel len calls : Nat) (hf : min - len ≤ fuel) :
    Rest min f (loop min f fuel len calls).1 (loop min f fuel len calls).2 ∧
    (loop min f fuel len calls).2 ≤ calls + (min - len) ∧
    len ≤ (loop min f fuel len calls).1 ∧ (loop min f fuel len calls).1 ≤ max len min := by
  -- where the loop stops without a call, the guard is false
  have stop {len calls} (h : min ≤ len) :
      Rest min f len calls ∧ calls ≤ calls + (min - len) ∧ len ≤ len ∧ len ≤ max len min :=
    ⟨.inl h, Nat.le_add_right .., Nat.le_refl _, Nat.le_max_left ..⟩
  fun_induction loop min f fuel len calls with
  | case1 len calls => exact stop (Nat.sub_eq_zero_iff_le.1 (Nat.le_zero.1 hf))
  | case2 fuel len calls hl hc ih =>
    -- a creation: one call, one step nearer to `min`, and both `len` and `len + 1` are at most `min`
    obtain ⟨h1, h2, h3, h4⟩ := ih (Nat.pred_le_iff.2 hf)
    have e : calls + 1 + (min - (len + 1)) = calls + (min - len) := by
      rw [Nat.add_assoc, Nat.add_comm 1, Nat.sub_add_eq, Nat.sub_add_cancel (Nat.sub_pos_of_lt hl)]
    rw [e] at h2
    rw [Nat.max_eq_right hl] at h4
    rw [Nat.max_eq_right (Nat.le_of_lt hl)]
    exact ⟨h1, h2, Nat.le_of_succ_le h3, h4⟩
  | case3 fuel len calls hl hc =>
    exact ⟨.inr ⟨Nat.succ_pos _, by simpa using hc⟩, Nat.add_le_add_left (Nat.sub_pos_of_lt hl) _, Nat.le_refl _,
      Nat.le_max_left ..⟩
  | case4 fuel len calls hl => exact stop (Nat.le_of_not_lt hl)

/-- more fuel changes nothing once there is enough: the Go loop (no fuel) is this function -/
theorem loop_fuel (min : Nat) (f : Nat → Bool) (fuel len calls : Nat) (hf : min - len ≤ fuel) :
    loop min f (fuel + 1) len calls = loop min f fuel len calls := by
  fun_induction loop min f fuel len calls with
  | case1 len calls => rw [loop, if_neg (Nat.not_lt.2 (Nat.sub_eq_zero_iff_le.1 (Nat.le_zero.1 hf)))]
  | case2 fuel len calls hl hc ih => rw [loop, if_pos hl, if_pos hc, ih (Nat.pred_le_iff.2 hf)]
  | case3 fuel len calls hl hc => rw [loop, if_pos hl, if_neg hc]
  | case4 fuel len calls hl => rw [loop, if_neg hl]

/-- the variant that leaves the loop at a failure only while the pool is empty -/
def loopKeepGoing (min : Nat) (f : Nat → Bool) : (fuel len calls : Nat) → Nat × Nat
  | 0, len, calls => (len, calls)
  | fuel + 1, len, calls =>
    if len < min then
      if f calls then loopKeepGoing min f fuel (len + 1) (calls + 1)
      else if len = 0 then (len, calls + 1)
      else loopKeepGoing min f fuel len (calls + 1)
    else (len, calls)

/-- a ClientConn that creates one connection and then fails -/
def onceThenFail : Nat → Bool := fun i => i == 0

/-- **it spins**: with minimum size 2 and that factory, after the first creation every further iteration
    is a failed call that changes nothing — whatever fuel it is given, it uses all of it -/
theorem keepGoing_spins (n calls : Nat) (hc : 0 < calls) :
    loopKeepGoing 2 onceThenFail n 1 calls = (1, calls + n) := by
  induction n generalizing calls with
  | zero => rfl
  | succ k ih =>
    have hf : onceThenFail calls = false := beq_eq_false_iff_ne.2 (Nat.ne_of_gt hc)
    rw [loopKeepGoing, if_pos (by decide), hf, if_neg Bool.false_ne_true, if_neg (by decide),
      ih (calls + 1) (Nat.succ_pos _), Nat.add_assoc, Nat.add_comm 1]

/-- … while the loop of the code stops after two calls with one connection -/
example : loop 2 onceThenFail 2 0 0 = (1, 2) := by decide

/-- non-vacuity of `loop_done`: a factory that fails every other time, minimum size 3 -/
example : loop 3 (fun i => i % 2 == 0) 3 0 0 = (1, 2) := by decide
example : loop 3 (fun _ => true) 3 0 0 = (3, 3) := by decide

/-- **per run**: the loop in the current sources has that shape -/
theorem enforce_loop_shape : GcpVerif.Generated.enforceLoopStopsAtFailure = true := by decide

end GcpVerif.Enforce
