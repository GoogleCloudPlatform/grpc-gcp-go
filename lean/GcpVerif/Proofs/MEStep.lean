/-
What one operation does, as a relation proved once (`Report` / `sea_spec` for a report, `Step` /
`step_spec` for any operation; `fireSwitch_spec` for the delayed-switch closure): every invariant is
shown by cases on it, those that only read `current` and the table by cases on the coarser `Shape`.
Then the invariant `Inv` along every run, and reachability.

An invariant that also reads timers or orphans is first shown for the moves the cases of `Step` are made of
(`setStateEp`, `setStateOrphan`, `enterRecovery`, `dropTimer`, `addTimer`, `addNew`, `setPrio`, `moveOut`,
`maybeUpdateCurrent`, `fireSwitch`; the two loops through `addOrUpdate_ind'` / `initRaw_ind`) and then assembled by
`cases` on `step_spec`: `tinv_step` in ME3 is the pattern, `sinv_step` in ME6 follows it.
-/
import GcpVerif.Proofs.MEInv
namespace GcpVerif.ME

/-- entering the recovery window: `setState(e, recovering)` followed by `scheduleUnavailable(e)` -/
def enterRecovery (s : St) (e : Ep) : St :=
  scheduleUnavailable (setStateEp s e .recovering) e (some (setStateEp s e .recovering).now)

theorem enterRecovery_eq (s : St) (e : Ep) : enterRecovery s e =
    { s with eps := updId s.eps e.id fun x => { x with status := .recovering, lastChange := some s.now, timer := some s.nextTid },
             timers := stopOpt s.now s.timers e.timer ++
               [{ tid := s.nextTid, due := s.now + s.r, kind := .recovery e.obj e.id (some s.now), stopped := false }],
             nextTid := s.nextTid + 1 } := by
  simp only [enterRecovery, scheduleUnavailable, setStateEp, addTimer]
  rw [updId_updId _ _ (touch .recovering s.now) _ (fun _ => rfl)]
  rfl

/-- what `setEndpointAvailability s id a` does -/
inductive Report (s : St) (id : String) : Bool → St → Prop where
  /-- unknown endpoint, or "unavailable" about an endpoint that is not available -/
  | noop (a : Bool) : (∀ e, findEp s.eps id = some e → a = false ∧ e.status ≠ .available) → Report s id a s
  | up (e : Ep) : findEp s.eps id = some e → Report s id true (setStateEp s e .available)
  | down (e : Ep) : findEp s.eps id = some e → e.status = .available → s.r = 0 →
      Report s id false (setStateEp s e .unavailable)
  | window (e : Ep) : findEp s.eps id = some e → e.status = .available → s.r ≠ 0 →
      Report s id false (enterRecovery s e)

theorem sea_spec (s : St) (id : String) (a : Bool) : Report s id a (setEndpointAvailability s id a) := by
  unfold setEndpointAvailability
  cases hf : findEp s.eps id with
  | none => exact .noop a (fun e he => by rw [hf] at he; cases he)
  | some e =>
    cases a with
    | true => exact .up e hf
    | false =>
      by_cases hav : e.status = .available
      · by_cases hr : s.r = 0
        · simp only [hav, hr, bne_self_eq_false, beq_self_eq_true, Bool.false_eq_true, ↓reduceIte]
          exact .down e hf hav hr
        · simp only [hav, hr, bne_self_eq_false, beq_iff_eq, Bool.false_eq_true, ↓reduceIte]
          exact .window e hf hav hr
      · simp only [bne_iff_ne, ne_eq, hav, not_false_eq_true, Bool.false_eq_true, ↓reduceIte]
        exact .noop false (fun e' he' => by rw [hf] at he'; cases he'; exact ⟨rfl, hav⟩)

theorem report_table {s s1 : St} {id : String} {a : Bool} (h : Report s id a s1) :
    ∃ F : Ep → Ep, s1.eps = s.eps.map F ∧ (∀ x, (F x).id = x.id ∧ (F x).prio = x.prio) ∧
      (∀ x, findEp s.eps id = some x → ((F x).status = .available ↔ a = true)) ∧ (∀ x, x.id ≠ id → F x = x) ∧
      s1.current = s.current ∧ s1.r = s.r ∧ s1.d = s.d := by
  -- every case rewrites the entries named `id` (`updId`) by some `g` that keeps identity and priority
  suffices ∃ g : Ep → Ep, s1.eps = updId s.eps id g ∧ (∀ y, (g y).id = y.id ∧ (g y).prio = y.prio) ∧
      (∀ x, findEp s.eps id = some x → ((g x).status = .available ↔ a = true)) ∧
      s1.current = s.current ∧ s1.r = s.r ∧ s1.d = s.d by
    obtain ⟨g, heq, hg, hav, rest⟩ := this
    refine ⟨fun x => if x.id == id then g x else x, heq, fun x => ?_, fun x hx => ?_,
      fun x hne => if_neg (mt beq_iff_eq.mp hne), rest⟩
    · dsimp only
      split
      · exact hg x
      · exact ⟨rfl, rfl⟩
    · dsimp only
      rw [if_pos (beq_iff_eq.mpr (findEp_some hx).2)]
      exact hav x hx
  cases h with
  | noop a hno =>
    refine ⟨fun y => y, (updId_self _ _).symm, fun _ => ⟨rfl, rfl⟩, fun ee hee => ?_, rfl, rfl, rfl⟩
    obtain ⟨rfl, hna⟩ := hno ee hee
    simp [hna]
  | up e hf =>
    obtain ⟨-, rfl⟩ := findEp_some hf
    exact ⟨touch .available s.now, rfl, fun _ => ⟨rfl, rfl⟩, fun _ _ => by simp [touch], rfl, rfl, rfl⟩
  | down e hf =>
    obtain ⟨-, rfl⟩ := findEp_some hf
    exact ⟨touch .unavailable s.now, rfl, fun _ => ⟨rfl, rfl⟩, fun _ _ => by simp [touch], rfl, rfl, rfl⟩
  | window e hf =>
    obtain ⟨-, rfl⟩ := findEp_some hf
    exact ⟨fun x => { x with status := .recovering, lastChange := some s.now, timer := some s.nextTid },
      by rw [enterRecovery_eq], fun _ => ⟨rfl, rfl⟩, fun _ _ => by simp, rfl, rfl, rfl⟩

/-- `s` without the timer that fires -/
def dropTimer (s : St) (tid : Nat) : St := { s with timers := removeTimer s.timers tid }

/-- what `stepRaw s op` does to the state, case by case.  The relation is used in one direction (`step_spec`: the
    step is one of these), which is what showing an invariant needs; it is not exact (`idle` does not say why nothing
    happens, `stale` does not exclude `expireOrphan`) and it forgets the outcome. -/
inductive Step (s : St) : Op → St → Prop where
  /-- rejected list; timer unknown or not due -/
  | idle (op : Op) : (∀ e a, op ≠ .setAvail e a) → (∀ dt, op ≠ .advance dt) → Step s op s
  | advance (dt : Nat) : Step s (.advance dt) { s with now := s.now + dt }
  | report (e : String) (a : Bool) (s1 : St) : Report s e a s1 → Step s (.setAvail e a) (maybeUpdateCurrent s1)
  | list (l : List String) : l ≠ [] →
      Step s (.setEndpoints l) (maybeUpdateCurrent (addOrUpdate (dropObsolete s l) l 0))
  | switch (tid : Nat) (t : Timer) : t ∈ s.timers → t.tid = tid → t.due ≤ s.now →
      t.kind = .switch → Step s (.fire tid) (fireSwitch (dropTimer s tid))
  /-- a recovery timer that has nothing left to do: the map entry with the captured id, if there is one, is another
      object or has changed since (another stamp) -/
  | stale (tid : Nat) (t : Timer) (obj : Nat) (id : String) (stamp : Option Int) :
      t ∈ s.timers → t.tid = tid → t.due ≤ s.now → t.kind = .recovery obj id stamp →
      (∀ e, findEp s.eps id = some e → e.obj = obj → e.lastChange ≠ stamp) → Step s (.fire tid) (dropTimer s tid)
  /-- the recovery window of a map entry ends -/
  | expire (tid : Nat) (t : Timer) (e : Ep) : t ∈ s.timers → t.tid = tid → t.due ≤ s.now →
      t.kind = .recovery e.obj e.id e.lastChange → findEp s.eps e.id = some e →
      Step s (.fire tid) (maybeUpdateCurrent (setStateEp (dropTimer s tid) e .unavailable))
  /-- the same for an object that has left the map -/
  | expireOrphan (tid : Nat) (t : Timer) (o : Ep) (id : String) : t ∈ s.timers → t.tid = tid → t.due ≤ s.now →
      t.kind = .recovery o.obj id o.lastChange → o ∈ s.orphans →
      (∀ e, findEp s.eps id = some e → e.obj ≠ o.obj) →
      Step s (.fire tid) (maybeUpdateCurrent (setStateOrphan (dropTimer s tid) o .unavailable))

theorem step_spec (s : St) (op : Op) : Step s op (stepRaw s op).1 := by
  cases op with
  | setAvail e a =>
    show Step s _ (maybeUpdateCurrent (setEndpointAvailability s e a))
    exact .report e a _ (sea_spec s e a)
  | advance dt => exact .advance dt
  | setEndpoints l =>
    cases l with
    | nil => exact .idle _ (fun _ _ h => by cases h) (fun _ h => by cases h)
    | cons x xs =>
      show Step s _ (maybeUpdateCurrent (addOrUpdate (dropObsolete s (x :: xs)) (x :: xs) 0))
      exact .list _ (List.cons_ne_nil _ _)
  | fire tid =>
    have idle : Step s (.fire tid) s := .idle _ (fun _ _ h => by cases h) (fun _ h => by cases h)
    simp only [stepRaw, opFire]
    cases hfind : s.timers.find? (fun t => t.tid == tid) with
    | none => exact idle
    | some t =>
      have htm : t ∈ s.timers := List.mem_of_find?_eq_some hfind
      have htid : t.tid = tid := by simpa using List.find?_some hfind
      dsimp only
      by_cases hcan : canFire s.now t = true
      · have hdue : t.due ≤ s.now := by simpa [canFire] using hcan
        simp only [hcan, Bool.not_true, Bool.false_eq_true, ↓reduceIte]
        cases hk : t.kind with
        | switch => exact .switch tid t htm htid hdue hk
        | recovery obj id stamp =>
          simp only [fireRecovery]
          -- the orphan branch, given that no map entry is the captured object
          have orphan : (∀ e, findEp s.eps id = some e → e.obj ≠ obj) →
              Step s (.fire tid) (match s.orphans.find? (fun e => e.obj == obj) with
                | none => dropTimer s tid
                | some e => if (e.lastChange != stamp) = true then dropTimer s tid
                    else maybeUpdateCurrent (setStateOrphan (dropTimer s tid) e .unavailable)) := by
            intro hno
            have hstale : Step s (.fire tid) (dropTimer s tid) :=
              .stale tid t obj id stamp htm htid hdue hk (fun e he ho => absurd ho (hno e he))
            cases hfo : s.orphans.find? (fun e => e.obj == obj) with
            | none => exact hstale
            | some o =>
              by_cases hlc : o.lastChange = stamp
              · simp only [hlc, bne_self_eq_false, Bool.false_eq_true, ↓reduceIte]
                have hobj : o.obj = obj := by simpa using List.find?_some hfo
                subst hobj hlc
                exact .expireOrphan tid t o id htm htid hdue hk (List.mem_of_find?_eq_some hfo) hno
              · simp only [bne_iff_ne, ne_eq, hlc, not_false_eq_true, ↓reduceIte]; exact hstale
          cases hfe : findEp s.eps id with
          | none => exact orphan (fun e he => by rw [hfe] at he; cases he)
          | some e =>
            by_cases hobj : e.obj = obj
            · by_cases hlc : e.lastChange = stamp
              · simp only [hobj, hlc, beq_self_eq_true, bne_self_eq_false, Bool.false_eq_true, ↓reduceIte]
                obtain rfl := (findEp_some hfe).2
                subst hobj hlc
                exact .expire tid t e htm htid hdue hk hfe
              · simp only [hobj, beq_self_eq_true, bne_iff_ne, ne_eq, hlc, not_false_eq_true, ↓reduceIte]
                exact .stale tid t obj id stamp htm htid hdue hk (fun e' he' _ => by rw [hfe] at he'; cases he'; exact hlc)
            · simp only [beq_iff_eq, hobj, ↓reduceIte]
              exact orphan (fun e' he' => by rw [hfe] at he'; cases he'; exact hobj)
      · simp only [hcan, Bool.not_false, ↓reduceIte]; exact idle

theorem fireSwitch_spec (s0 : St) :
    (fireSwitch s0 = s0 ∧ ∀ e, findEp s0.eps s0.future = some e → e.status = .available →
      ∃ c, findEp s0.eps s0.current = some c ∧ c.status ≠ .unavailable ∧ c.prio < e.prio) ∨
    ∃ e, findEp s0.eps s0.future = some e ∧ e.status = .available ∧
      fireSwitch s0 = { s0 with current := e.id } ∧
      ∀ c, findEp s0.eps s0.current = some c → ¬ (c.status ≠ .unavailable ∧ c.prio < e.prio) := by
  unfold fireSwitch
  cases hfut : findEp s0.eps s0.future with
  | none => exact .inl ⟨rfl, fun e he => nomatch he⟩
  | some e =>
    dsimp only
    by_cases hav : e.status = .available
    · simp only [hav, beq_self_eq_true, ↓reduceIte]
      cases hc : findEp s0.eps s0.current with
      | none => exact .inr ⟨e, rfl, hav, rfl, fun c hc' => nomatch hc'⟩
      | some c =>
        dsimp only
        by_cases hg : (c.status != .unavailable && decide (c.prio < e.prio)) = true
        · rw [if_pos hg]
          simp only [Bool.and_eq_true, bne_iff_ne, ne_eq, decide_eq_true_eq] at hg
          exact .inl ⟨rfl, fun e' he' _ => by cases he'; exact ⟨c, rfl, hg⟩⟩
        · rw [if_neg hg]
          refine .inr ⟨e, rfl, hav, rfl, fun c' hc' hcon => hg ?_⟩
          cases hc'
          simp [hcon.1, hcon.2]
    · rw [if_neg (mt beq_iff_eq.mp hav)]
      exact .inl ⟨rfl, fun e' he' hav' => by cases he'; exact absurd hav' hav⟩

theorem fireSwitch_eps (s : St) : (fireSwitch s).eps = s.eps := by
  rcases fireSwitch_spec s with ⟨h, -⟩ | ⟨e, -, -, h, -⟩ <;> rw [h]

/-- what a timer can do to the table: nothing, or the endpoint it was armed for — still the same
    object, its `lastChange` still the timer's stamp — becomes unavailable -/
theorem opFire_eps (s : St) (tid : Nat) :
    (opFire s tid).1.eps = s.eps ∨
    ∃ t ∈ s.timers, ∃ e ∈ s.eps, t.tid = tid ∧ t.due ≤ s.now ∧ t.kind = .recovery e.obj e.id e.lastChange ∧
      (opFire s tid).1.eps = updId s.eps e.id (touch .unavailable s.now) := by
  have hs : Step s (.fire tid) (opFire s tid).1 := step_spec s (.fire tid)
  generalize (opFire s tid).1 = s' at hs ⊢
  cases hs with
  | idle | stale => exact .inl rfl
  | switch => exact .inl (fireSwitch_eps _)
  | expireOrphan => exact .inl (muc_eps _)
  | expire _ t e htm htid hdue hk hfe => exact .inr ⟨t, htm, e, (findEp_some hfe).1, htid, hdue, hk, muc_eps _⟩

/-! ### the coarse shape of a step: what the invariants about `current` need -/

inductive Shape (s : St) (op : Op) (s' : St) : Prop where
  /-- table and current untouched (advance, rejected call, outdated timer) -/
  | idle : s'.eps = s.eps → s'.current = s.current → s'.r = s.r → s'.d = s.d → s'.future = s.future → Shape s op s'
  /-- some table update that keeps `current`, followed by `maybeUpdateCurrent` -/
  | muc (s1 : St) : Base s1 → s1.current = s.current → s1.r = s.r → s1.d = s.d →
      s' = maybeUpdateCurrent s1 → Shape s op s'
  /-- the delayed-switch timer -/
  | sw (s0 : St) (tid : Nat) : op = .fire tid → s0.eps = s.eps → s0.current = s.current →
      s0.future = s.future → s0.r = s.r → s0.d = s.d → s' = fireSwitch s0 → Shape s op s'

theorem step_shape {s : St} (h : Inv s) (op : Op) : Shape s op (stepRaw s op).1 := by
  have hs := step_spec s op
  generalize (stepRaw s op).1 = s' at hs ⊢
  cases hs with
  | idle | advance | stale => exact .idle rfl rfl rfl rfl rfl
  | report e a s1 hr =>
    obtain ⟨F, heps, hF, -, -, hc, hr', hd⟩ := report_table hr
    exact .muc s1 (base_map h.toBase F hF heps hr' hd) hc hr' hd rfl
  | list l hl =>
    obtain ⟨hc, hr, hd⟩ := addOrUpdate_fields (dropObsolete s l) l
    exact .muc _ (base_setEndpoints h.toBase l hl) hc hr hd rfl
  | switch tid => exact .sw (dropTimer s tid) tid rfl rfl rfl rfl rfl rfl rfl
  | expire tid t e =>
    have hb : Base (dropTimer s tid) := base_of_eps h.toBase rfl rfl rfl
    exact .muc _ (base_setStateEp hb e .unavailable) rfl rfl rfl rfl
  | expireOrphan tid t o =>
    exact .muc (setStateOrphan (dropTimer s tid) o .unavailable) (base_of_eps h.toBase rfl rfl rfl) rfl rfl rfl rfl

theorem init_fields {r d : Int} {l : List String} {s : St} (h : initRaw r d l = some s) :
    s.r = r ∧ s.d = d ∧ l.head? = some s.current :=
  initRaw_ind (P := fun s _ => s.r = r ∧ s.d = d ∧ l.head? = some s.current) h (fun _ hf => ⟨rfl, rfl, hf⟩)
    (fun s _ x hs => by
      obtain ⟨-, h2, h3, h4⟩ := addNew_fields (moveOut s (fun e => e.id == x)) x _
      rw [h2, h3, h4]; exact hs)

theorem init_status {r d : Int} {l : List String} {s : St} (h : initRaw r d l = some s) :
    ∀ e ∈ s.eps, e.status = if r > 0 then .recovering else .unavailable :=
  (initRaw_ind (P := fun s _ => s.r = r ∧ ∀ e ∈ s.eps, e.status = if r > 0 then .recovering else .unavailable) h
    (fun _ _ => ⟨rfl, fun e he => by cases he⟩) (fun s _ x ⟨hr, hs⟩ => by
      obtain ⟨h1, -, h3, -⟩ := addNew_fields (moveOut s (fun e => e.id == x)) x _
      refine ⟨h3 ▸ hr, fun e he => ?_⟩
      rcases List.mem_append.mp (h1 ▸ he) with he | he
      · exact hs e (List.mem_filter.mp he).1
      · rw [List.mem_singleton.mp he, newEndpoint_snd]; exact hr ▸ rfl)).2

theorem init_not_available {r d : Int} {l : List String} {s : St} (h : initRaw r d l = some s) :
    ∀ e ∈ s.eps, e.status ≠ .available := fun e he => by rw [init_status h e he]; split <;> simp

theorem inv_init {r d : Int} {l : List String} {s : St} (hr : 0 ≤ r) (hd : 0 ≤ d)
    (h : initRaw r d l = some s) : Inv s := by
  obtain ⟨e1, e2, e3⟩ := init_fields h
  have hw := init_walked h
  have hcur : s.current ∈ ids s.eps := init_cover h _ (List.mem_of_mem_head? e3)
  refine ⟨⟨e1 ▸ hr, e2 ▸ hd, fun hnil => ?_, hw.idInj, hw.prioInj fun e he => (hw.known e he).elim id False.elim⟩,
    Option.isSome_iff_exists.mp (by rw [← ids_contains]; simpa using hcur), fun _ _ _ => init_not_available h⟩
  rw [hnil] at hcur; cases hcur

theorem inv_of_eps {s s' : St} (h : Inv s) (he : s'.eps = s.eps) (hc : s'.current = s.current)
    (hr : s'.r = s.r) (hd : s'.d = s.d) : Inv s' :=
  { base_of_eps h.toBase he hr hd with
    curMem := by rw [he, hc]; exact h.curMem
    m5 := by rw [he, hc]; exact h.m5 }

theorem inv_step {s : St} (h : Inv s) (op : Op) : Inv (stepRaw s op).1 := by
  cases step_shape h op with
  | idle he hc hr hd _ => exact inv_of_eps h he hc hr hd
  | muc s1 hb _ _ _ heq => rw [heq]; exact muc_inv hb
  | sw s0 tid _ he hc _ hr hd heq =>
    rw [heq]
    have h0 : Inv s0 := inv_of_eps h he hc hr hd
    rcases fireSwitch_spec s0 with ⟨hid, -⟩ | ⟨e, hfut, hav, hsw, -⟩
    · rw [hid]; exact h0
    · -- the new current endpoint is in the table and available
      rw [hsw]
      have hfe := findEp_of_mem h0.idInj (findEp_some hfut).1
      exact { h0.toBase with
        curMem := ⟨e, hfe⟩
        m5 := fun c hc' hun => by rw [show c = e from Option.some.inj (hc'.symm.trans hfe), hav] at hun; cases hun }

/-- states reachable through the API from a constructor call with non-negative durations -/
inductive Reach : St → Prop where
  | initRaw {r d : Int} {l : List String} {s : St} : 0 ≤ r → 0 ≤ d → initRaw r d l = some s → Reach s
  | stepRaw {s : St} (op : Op) : Reach s → Reach (stepRaw s op).1

/-- `Reach.stepRaw` for a report, with the projection `(stepRaw s (.setAvail e a)).1` computed (GME speaks of
    `opSetAvail`; using `Reach.stepRaw (.setAvail e a) h` there directly makes the unifier unfold `opSetAvail` first) -/
theorem reach_opSetAvail {s : St} (e : String) (a : Bool) (h : Reach s) : Reach (opSetAvail s e a) := by
  have := Reach.stepRaw (.setAvail e a) h
  dsimp only [stepRaw] at this
  exact this

theorem reach_inv {s : St} (h : Reach s) : Inv s := by
  induction h with
  | initRaw hr hd hi => exact inv_init hr hd hi
  | stepRaw op _ ih => exact inv_step ih op

end GcpVerif.ME
