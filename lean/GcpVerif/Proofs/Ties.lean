/-
Obligations on the facts regenerated from /repo's working tree (tools/extract) — re-checked by the
kernel on every run; an edit of the Go sources that moves one of them breaks this file.
-/
import GcpVerif.Generated.Consts
import GcpVerif.Model.Pool
namespace GcpVerif.Ties
open GcpVerif.Generated

/-- C17: the balancer works on a clone of the caller's configuration and never writes through the
    parameter; GCPMultiEndpoint stores a clone and GCPConfig() hands out a clone -/
theorem config_not_mutated_not_aliased :
    initializeConfigClonesParam = true ∧ initializeConfigWritesParam = false ∧
    gmeClonesCallerConfig = true ∧ gcpConfigReturnsClone = true := by decide

/-- C17: the configuration is fixed by the first resolver update: the only call of
    initializeConfig is guarded by `gb.cfg == nil` -/
theorem first_update_wins_guard :
    initializeConfigCalls = 1 ∧ initializeConfigGuardedCalls = initializeConfigCalls := by decide

/-- C20: ResolverError does nothing but log -/
theorem resolver_error_only_logs : resolverErrorOnlyLogs = true := by decide

/-- C17: the pool model's defaults are the generated ones -/
theorem pool_defaults_tie :
    (GcpVerif.Pool.effective { min := 0, max := 0, wm := 0, fb := false, rr := false, uc := 0, ums := 0, methods := true }).min = defaultMinSize.toNat ∧
    (GcpVerif.Pool.effective { min := 0, max := 0, wm := 0, fb := false, rr := false, uc := 0, ums := 0, methods := true }).max = defaultMaxSize.toNat ∧
    (GcpVerif.Pool.effective { min := 0, max := 0, wm := 0, fb := false, rr := false, uc := 0, ums := 0, methods := true }).wm = defaultMaxStreams.toNat := by decide

/-- C12: every condition-variable wake-up of gcp_interceptor.go is sent right after a lock region has
    ended (`…Unlock(); …Broadcast()`): a waiter is then either before its check — and will see the new
    state or the finished context — or already inside `cond.Wait`, so the wake-up is not lost.  This is
    what makes `broadcast` and `watcherFire` atomic steps of the stream model. -/
theorem cond_broadcast_handshake :
    condBroadcasts = condBroadcastsAfterUnlock ∧ 2 ≤ condBroadcasts := by decide

/-- C09: the round-robin cursor is advanced by an atomic add of one and written in no other way: two
    BIND picks never obtain the same turn (what makes `pickRR` an atomic step of the pool model) -/
theorem rr_cursor_atomic_add : rrCursorAtomicAdds = 1 ∧ rrCursorOtherWrites = 0 := by decide

/-- C09 (F32): the cursor is 64 bits wide — field, atomic add and the reduction modulo the list length
    alike — which is the modulus `2^64` of the model's `pickRR` and of `rrSlot`: the cycle is unbroken
    for the first 2^64 BIND picks of a balancer (`rr_fair`), i.e. for every execution that can exist -/
theorem rr_cursor_width : rrCursorBits = 64 ∧ rrCursorAddBits = 64 ∧ rrCursorModBits = 64 := by decide

/-- C01 / C07 (F22): a completing BIND call reads the connection of its channel only after it holds the
    balancer lock (under which a refresh swaps that connection): the model's completion step, which
    binds the keys to the channel's *current* connection, is atomic with respect to the swap -/
theorem bind_reads_subconn_under_lock : bindReadsSubConnUnderLock = true := by decide

/-- C04 / C07 / C20: `UpdateClientConnState`, `UpdateSubConnState` and `refresh` hold the balancer lock
    from their first statement to their return: each is one atomic step of the pool model (no other
    callback, completion or pick of the balancer's tables can run in between) -/
theorem balancer_callbacks_hold_lock : balancerCallbacksHoldLock = true := by decide

/-- C07 (F28): the detector, which decides about a refresh without the balancer lock, starts it only
    through `refreshSince`, which re-validates the decision under the lock (the last-response time it
    was based on must still be the channel's): in the model, decision and refresh are one atomic step -/
theorem detector_decision_revalidated : detectorRefreshesUnvalidated = 0 := by decide

/-- C07 (F33): the detector's test "the call started after the last response" and the increment of the
    deadline-exceeded counter are one critical section of the channel's mutex, and every other write of
    the counter (the reset by a response, by the swap) holds that mutex too: a completion is one atomic
    step of the pool model with respect to the other completions on the channel -/
theorem detector_counts_atomically :
    deCallsTestAndCountRegions = 1 ∧ deCallsWritesOutsideLock = 0 ∧ deCallsAtomicAccesses = 0 ∧ 3 ≤ deCallsWrites := by decide

theorem balancer_name : balancerName = "grpc_gcp" := rfl

end GcpVerif.Ties
