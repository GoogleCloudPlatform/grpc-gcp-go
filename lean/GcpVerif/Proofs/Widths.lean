/-
C17 / C03 — the stream low watermark (uint32) against the stream counters (int32).

`widened_compare`: for every non-negative 32-bit counter and every 32-bit watermark, comparing the two
after widening both to 64 bits (the counter sign-extended, the watermark zero-extended — Go's
`int64(int32)` and `int64(uint32)`) is comparing their values: the effective watermark is the
configured one over the whole uint32 range.  `narrowed_compare_wrong`: converting the watermark to
int32 instead (same bits) is not — an idle channel (0 calls) is "saturated" for a watermark of 2^31
(seeded change R10-C17-m1; the repair 27c45c5 before it).  `watermark_reads_widened` is the per-run
obligation on the regenerated facts: every read of the watermark that is not the `== 0` test of the
defaulting code is the sole argument of an `int64(…)` conversion.
-/
import GcpVerif.Generated.Consts
namespace GcpVerif.Widths

theorem widened_compare (cnt w : BitVec 32) (hc : 0 ≤ cnt.toInt) :
    (cnt.signExtend 64).slt (w.zeroExtend 64) = decide (cnt.toNat < w.toNat) := by
  -- sign extension keeps the counter's value, which is its bit pattern because it is not negative
  have h1 : (cnt.signExtend 64).toInt = cnt.toNat :=
    (BitVec.toInt_signExtend_of_le (by decide)).trans (BitVec.toInt_eq_toNat_of_lt (BitVec.toInt_pos_iff.1 hc))
  -- zero extension keeps the watermark's bit pattern and leaves the top bit clear
  have e : (w.zeroExtend 64).toNat = w.toNat := BitVec.toNat_setWidth_of_le (by decide)
  have h2 : (w.zeroExtend 64).toInt = w.toNat := by
    rw [BitVec.toInt_eq_toNat_of_lt (by rw [e]; have := w.isLt; omega), e]
  rw [BitVec.slt_eq_decide, h1, h2]
  exact decide_eq_decide.2 Int.ofNat_lt

theorem narrowed_compare_wrong : ∃ cnt w : BitVec 32, 0 ≤ cnt.toInt ∧ cnt.toNat < w.toNat ∧ cnt.slt w = false :=
  ⟨0#32, 2147483648#32, by decide, by decide, by decide⟩

/-- non-vacuity: a counter of 5 against the largest watermark -/
example : ((5#32).signExtend 64).slt ((4294967295#32).zeroExtend 64) = true := by decide

/-- **per run** -/
theorem watermark_reads_widened :
    GcpVerif.Generated.watermarkOtherReads = 0 ∧ 2 ≤ GcpVerif.Generated.watermarkReadsWidened ∧
    1 ≤ GcpVerif.Generated.watermarkZeroTests := by decide

end GcpVerif.Widths
