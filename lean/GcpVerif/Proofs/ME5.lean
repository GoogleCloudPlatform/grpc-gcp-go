/-
What C16 `rpc_total` needs of a MultiEndpoint behind its API (`init`, `step`: arguments normalised
first, F29/F30): its states are states of the machine, and after construction or an accepted
SetEndpoints it holds only ids of the caller's list.
-/
import GcpVerif.Proofs.MEApi
namespace GcpVerif.ME

theorem api_step_reach {s : St} (op : Op) (h : Reach s) : Reach (step s op).1 := Reach.stepRaw (normOp op) h

theorem api_init_reach {r d : Int} {l : List String} {s : St} (h : init r d l = some s) : Reach s :=
  (ReachApi.init h).reach

theorem api_setEndpoints_ids_sub {s : St} (hr : Reach s) (l : List String) (hl : l ≠ []) :
    ∀ e ∈ (step s (.setEndpoints l)).1.eps, e.id ∈ l := fun e he =>
  List.mem_eraseDups.mp ((setEndpoints_list s l.eraseDups (by rw [eraseDups_isEmpty]; simpa using hl)
    (reach_ids_nodup hr)).ids_sub e he)

theorem api_init_ids_sub {r d : Int} {l : List String} {s : St} (h : init r d l = some s) : ∀ e ∈ s.eps, e.id ∈ l :=
  fun e he => List.mem_eraseDups.mp ((init_list h).ids_sub e he)

theorem api_init_isSome (r d : Int) {l : List String} (hl : l ≠ []) : (init r d l).isSome = true := by
  obtain ⟨a, as, rfl⟩ := List.exists_cons_of_ne_nil hl
  simp only [init]; rw [List.eraseDups_cons]; rfl

end GcpVerif.ME
