/-
C17 — theorems about the configuration model.
-/
import GcpVerif.Model.Config
import GcpVerif.Generated.Consts
import GcpVerif.Proofs.ConfigJson
namespace GcpVerif.Config

/-- tie: the defaults regenerated from gcp_balancer.go are the ones the property names -/
theorem defaults_tie :
    GcpVerif.Generated.defaultMinSize = 1 ∧ GcpVerif.Generated.defaultMaxSize = 4 ∧
    GcpVerif.Generated.defaultMaxStreams = 100 := by decide

/-- the pool section after `initializeConfig`, for any defaults -/
def fill (dMin dMax dWm : Nat) (cp : ChannelPool) : ChannelPool :=
  { cp with minSize := if cp.minSize == 0 then dMin else cp.minSize,
            maxSize := if cp.maxSize == 0 then dMax else cp.maxSize,
            wm := if cp.wm == 0 then dWm else cp.wm }

theorem effective_eq (dMin dMax dWm : Nat) (o : Option ApiConfig) : effective dMin dMax dWm o =
    { channelPool := some (fill dMin dMax dWm ((o.getD {}).channelPool.getD {})),
      methods := (o.getD {}).methods } := rfl

theorem dflt_idem (d x : Nat) :
    (if (if x == 0 then d else x) == 0 then d else if x == 0 then d else x) = if x == 0 then d else x := by
  by_cases h : (x == 0) = true
  · rw [if_pos h]; exact ite_self d
  · rw [if_neg h, if_neg h]

theorem fill_idem (a b c : Nat) (cp : ChannelPool) : fill a b c (fill a b c cp) = fill a b c cp := by
  cases cp
  simp only [fill, dflt_idem]

/-- C17: the effective pool section differs from the supplied one exactly in minSize / maxSize /
    low-watermark, and only where they were absent or zero -/
theorem effective_defaults (c : ApiConfig) (cp : ChannelPool) (h : c.channelPool = some cp) :
    (effective 1 4 100 (some c)).channelPool = some
      { cp with minSize := if cp.minSize = 0 then 1 else cp.minSize,
                maxSize := if cp.maxSize = 0 then 4 else cp.maxSize,
                wm := if cp.wm = 0 then 100 else cp.wm } := by
  simp only [effective_eq, Option.getD_some, h, fill, beq_iff_eq]

theorem effective_absent_pool (c : ApiConfig) (h : c.channelPool = none) :
    (effective 1 4 100 (some c)).channelPool = some { minSize := 1, maxSize := 4, wm := 100 } := by
  rw [effective_eq, Option.getD_some, h]; rfl

theorem effective_no_config : effective 1 4 100 none = { channelPool := some { minSize := 1, maxSize := 4, wm := 100 }, methods := [] } :=
  rfl

/-- the method entries are kept as they are -/
theorem effective_methods (c : ApiConfig) : (effective 1 4 100 (some c)).methods = c.methods := rfl

/-- nothing else of the pool section changes -/
theorem effective_keeps_rest (c : ApiConfig) (cp : ChannelPool) (h : c.channelPool = some cp) :
    ∃ e, (effective 1 4 100 (some c)).channelPool = some e ∧ e.idleTimeout = cp.idleTimeout ∧
      e.fallback = cp.fallback ∧ e.udMs = cp.udMs ∧ e.uCalls = cp.uCalls ∧ e.strategy = cp.strategy :=
  ⟨_, effective_defaults c cp h, rfl, rfl, rfl, rfl, rfl⟩

theorem effective_idem_gen (a b c : Nat) (o : Option ApiConfig) :
    effective a b c (some (effective a b c o)) = effective a b c o := by
  rw [effective_eq, effective_eq, Option.getD_some, Option.getD_some, fill_idem]

/-- effective is idempotent (a second initialisation would change nothing) -/
theorem effective_idem (c : ApiConfig) :
    effective 1 4 100 (some (effective 1 4 100 (some c))) = effective 1 4 100 (some c) :=
  effective_idem_gen 1 4 100 (some c)

/-- what one entry says about `name` -/
def entryFor (name : String) (m : Method) : Option Affinity :=
  if m.names.contains name then m.affinity else none

/-- the table maps a name to what the *last* entry that lists it with an affinity section says -/
theorem methodTable_eq (ms : List Method) (name : String) :
    methodTable ms name = ms.reverse.findSome? (entryFor name) := by
  induction ms with
  | nil => rfl
  | cons m rest ih =>
    rw [List.reverse_cons, List.findSome?_append, ← ih, methodTable]
    simp only [List.findSome?_cons, List.findSome?_nil, entryFor]
    cases methodTable rest name with
    | some a => rfl
    | none => cases m.affinity <;> cases m.names.contains name <;> rfl

/-- C17 (sound): whatever a method name maps to is the affinity section of an entry that lists it -/
theorem method_table_sound (ms : List Method) (name : String) (a : Affinity)
    (h : methodTable ms name = some a) : ∃ m ∈ ms, m.affinity = some a ∧ name ∈ m.names := by
  rw [methodTable_eq] at h
  obtain ⟨m, hm, hf⟩ := List.exists_of_findSome?_eq_some h
  unfold entryFor at hf
  split at hf
  · rename_i hc
    exact ⟨m, List.mem_reverse.1 hm, hf, List.contains_iff_mem.1 hc⟩
  · cases hf

/-- C17 (complete): a name listed in an entry with an affinity section is mapped to something -/
theorem method_table_complete (ms : List Method) (name : String) (m : Method) (a : Affinity)
    (hm : m ∈ ms) (ha : m.affinity = some a) (hn : name ∈ m.names) :
    ∃ a', methodTable ms name = some a' := by
  cases hr : methodTable ms name with
  | some a' => exact ⟨a', rfl⟩
  | none =>
    rw [methodTable_eq, List.findSome?_eq_none_iff] at hr
    have := hr m (List.mem_reverse.2 hm)
    rw [entryFor, if_pos (List.contains_iff_mem.2 hn), ha] at this
    cases this

/-- C17: a name listed in exactly one entry that has an affinity section maps to that entry's
    command and key path -/
theorem method_table_unique (ms : List Method) (name : String) (m : Method) (a : Affinity)
    (hm : m ∈ ms) (ha : m.affinity = some a) (hn : name ∈ m.names)
    (huniq : ∀ m' ∈ ms, ∀ a', m'.affinity = some a' → name ∈ m'.names → a' = a) :
    methodTable ms name = some a := by
  obtain ⟨a', h⟩ := method_table_complete ms name m a hm ha hn
  obtain ⟨m', hm', ha', hn'⟩ := method_table_sound ms name a' h
  rw [h, huniq m' hm' a' ha' hn']

/-- no other method is mapped: a name that no entry with an affinity section lists is unmapped -/
theorem method_table_none (ms : List Method) (name : String)
    (h : ∀ m ∈ ms, ∀ a, m.affinity = some a → name ∉ m.names) : methodTable ms name = none := by
  cases hr : methodTable ms name with
  | none => rfl
  | some a =>
    obtain ⟨m, hm, ha, hn⟩ := method_table_sound ms name a hr
    exact absurd hn (h m hm a ha)

/-- protojson on syntax trees: a configuration with a pool section, an enum and two method entries
    survives render → parse unchanged, as an instance of `parse_render`; the round trip through the
    real parser is checked for every generated configuration by the correspondence run -/
example :
    let c : ApiConfig :=
      { channelPool := some { maxSize := 10, wm := 3, fallback := true, strategy := 2 },
        methods := [{ names := ["m1", "m2"], affinity := some { command := 1, key := "k" } }, { names := [], affinity := none }] }
    parse (render c) = some c := by
  refine parse_render _ ⟨fun cp h => ?_, fun m hm a ha => ?_⟩
  · cases h; unfold ChannelPool.wf'; simp
  · simp only [List.mem_cons, List.mem_nil_iff, or_false] at hm
    rcases hm with rfl | rfl
    · cases ha; unfold Affinity.wf; simp
    · cases ha

/-- test: unknown fields, duplicate aliases and wrong value shapes are rejected -/
example : parse (.obj [("unknownField", .num 1)]) = none ∧
          parse (.obj [("channelPool", .obj [("maxSize", .num 1), ("max_size", .num 1)])]) = none ∧
          parse (.obj [("channelPool", .obj [("maxSize", .frac)])]) = none ∧
          parse (.obj [("method", .arr [.null])]) = none ∧ parse .null = none := by decide +kernel

end GcpVerif.Config
