/-
C01 at Reach level, under gRPC's side of the contract (`RunOk`: a Shutdown report only for a connection the
balancer has removed): the key table (and the fallback table) only ever name connections that are
in the pool *now* — in particular across a refresh, which replaces the connection object of a
slot — and the slot a key is bound to changes only when a BIND or UNBIND completes successfully.
-/
import GcpVerif.Proofs.PoolSlots
import GcpVerif.Proofs.PoolLocal
namespace GcpVerif.Pool

structure Keyed (s : St) : Prop where
  affOk : ∀ p ∈ s.affinity, p.2 ∈ keys s.scRefs
  fbOk : ∀ p ∈ s.fallback, p.2 ∈ keys s.scRefs

/-- the slot a key is bound to (through the connection object the key table names) -/
def slotOfKey (s : St) (key : String) : Option Slot := (lookup s.affinity key).bind (lookup s.scRefs)

/-- the operation is the successful completion of a BIND or UNBIND call -/
def rebinds (s : St) : Op → Prop
  | .done callId .nil _ => ∃ call ∈ s.calls, call.id = callId ∧ call.cmd ≠ .bound
  | _ => False

/-- the operation is the successful completion of an UNBIND call for `key` -/
def unbindsKey (s : St) (key : String) : Op → Prop
  | .done callId .nil _ => ∃ call ∈ s.calls, call.id = callId ∧ call.cmd = .unbind ∧ call.boundKey = key
  | _ => False

variable {ci : CfgInput}

theorem keyed_of {s s' : St} (h : Keyed s) (mono : ∀ sc ∈ keys s.scRefs, sc ∈ keys s'.scRefs)
    (aff : ∀ p ∈ s'.affinity, p ∈ s.affinity ∨ p.2 ∈ keys s'.scRefs)
    (fb : ∀ p ∈ s'.fallback, p ∈ s.fallback ∨ p.2 ∈ keys s'.scRefs) : Keyed s' :=
  ⟨fun p hp => (aff p hp).elim (fun h' => mono _ (h.affOk p h')) id,
   fun p hp => (fb p hp).elim (fun h' => mono _ (h.fbOk p h')) id⟩

theorem keyed_swapped {s : St} (h : Keyed s) (sc : Sc) (slot : Slot) (old : Sc) : Keyed (s.swapped sc slot old) := by
  have key : ∀ (l : List (String × Sc)), (∀ p ∈ l, p.2 ∈ keys s.scRefs) →
      ∀ p ∈ repoint l old sc, p.2 ∈ keys (insert (erase s.scRefs old) sc slot) := by
    intro l hl p hp
    obtain ⟨q, hq, rfl⟩ := List.mem_map.mp hp
    by_cases ho : (q.2 == old) = true
    · rw [if_pos ho]; exact mem_keys_insert_erase.mpr (Or.inl rfl)
    · rw [if_neg ho]; exact mem_keys_insert_erase.mpr (Or.inr ⟨hl q hq, fun e => ho (beq_iff_eq.mpr e)⟩)
  exact ⟨key _ h.affOk, key _ h.fbOk⟩

theorem keyed_recorded {s : St} (h : Keyed s) (sc : Sc) (oldS : CState) {st : CState} (hne : st ≠ .shutdown) :
    Keyed (s.recorded sc oldS st) :=
  keyed_of h (fun _ hx => (recorded_live s sc oldS hne).2 ▸ hx) (fun _ => Or.inl)
    fun _ hp => Or.inl (mem_cleanFallback hp).1

theorem keyed_frame {s : St} (h : Keyed s) {cfgIn cfg addrs nReady nConn nTF aggr scStates refs rr refreshingMap picker nextSc
    failN scAddrs removed published now calls waiters held} :
    Keyed { s with cfgIn, cfg, addrs, nReady, nConn, nTF, aggr, scStates, refs, rr, refreshingMap, picker, nextSc, failN,
                   scAddrs, removed, published, now, calls, waiters, held } :=
  ⟨h.affOk, h.fbOk⟩

theorem keyed_stage {s0 s s' : St} {op : Op} (st : Stage s0 op s s') (hct : contractOk s0 op) (b : Bij s)
    (h : Keyed s) : Keyed s' := by
  cases st with
  | addConn => exact keyed_of h (fun _ hx => mem_keys_insert.mpr (Or.inr hx)) (fun _ => Or.inl) (fun _ => Or.inl)
  | setFallback c key sc l slot r _ _ _ _ _ _ hg =>
    refine keyed_of h (fun _ hx => hx) (fun _ => Or.inl) fun p hp => (mem_insert hp).imp_right fun e => ?_
    rw [e]; exact b.mem_keys (getRef_subAt hg)
  | bindAll call _ ks r _ _ hg =>
    refine keyed_of h (fun _ hx => hx)
      (fun p hp => ((bindAll_affinity r.subConn ks s).1 p hp).imp_right fun e => ?_) (fun _ => Or.inl)
    rw [e]; exact b.mem_keys (getRef_subAt hg)
  | unbind call =>
    exact keyed_of h (fun _ hx => hx)
      (fun p hp => Or.inl (mem_erase.mp (unbindSubConn_affinity s call.boundKey ▸ hp)).1) (fun _ => Or.inl)
  | swap sc _ slot r => exact keyed_swapped h sc slot r.subConn
  | record sc st _ oldS hst hsd => exact keyed_recorded h sc oldS (not_shutdown_of_contract hct hsd hst)
  | publish sc st order oldS hst hsd =>
    exact keyed_frame (keyed_recorded h sc oldS (not_shutdown_of_contract hct hsd hst))
  | _ => exact keyed_frame h

theorem keyed_step {s : St} (h : Keyed s) (h1 : Pool1 ci s) (op : Op) (hct : contractOk s op) : Keyed (step s op).1 :=
  (step_induct (P := fun s => Pool1 ci s ∧ Keyed s) op
    (fun st h => ⟨pool1_stage st hct h.1, keyed_stage st hct h.1.bij h.2⟩) ⟨h1, h⟩).2

theorem keyed_run (ci : CfgInput) (ops : List Op) (hok : RunOk (init ci) ops) : Keyed (run (init ci) ops) :=
  (runOk_induct (P := fun s => Pool1 ci s ∧ Keyed s)
    (fun _ op hct h => ⟨pool1_step h.1 op hct, keyed_step h.2 h.1 op hct⟩) ops _
    ⟨pool1_init ci, nofun, nofun⟩ hok).2

theorem slot_swapped {s : St} (h : Keyed s) (b : Bij s) (t : Tables s) {sc : Sc} {slot : Slot} {r : RefSt}
    (hrep : sc ∈ keys s.refreshingMap) (hg : getRef s slot = some r) (key : String) :
    slotOfKey (s.swapped sc slot r.subConn) key = slotOfKey s key := by
  show (lookup (repoint s.affinity r.subConn sc) key).bind (lookup (s.swapped sc slot r.subConn).scRefs) = _
  unfold slotOfKey
  rw [lookup_repoint]
  cases hl : lookup s.affinity key with
  | none => rfl
  | some x =>
    show lookup _ (if x == r.subConn then sc else x) = lookup s.scRefs x
    rw [lookup_swapped_scRefs]
    by_cases hxo : x = r.subConn
    · -- the key of the old connection: its slot is the one swapped
      rw [if_pos (beq_iff_eq.mpr hxo), if_pos rfl, hxo]
      exact (b.slotOf slot _ (getRef_subAt hg)).symm
    · have hx1 : sc ≠ x := fun e => t.rep_not_key hrep (e ▸ h.affOk (key, x) (lookup_some_mem hl))
      rw [if_neg fun e => hxo (beq_iff_eq.mp e), if_neg hx1, if_neg (Ne.symm hxo)]

theorem stable_swap {s : St} (h : Keyed s) (b : Bij s) (t : Tables s) (sc : Sc) (slot : Slot)
    (hrep : sc ∈ keys s.refreshingMap) (key : String) : slotOfKey (swap s sc slot).1 key = slotOfKey s key := by
  cases hg : getRef s slot with
  | none => rw [swap_none hg]
  | some r => rw [swap_some hg]; exact slot_swapped h b t hrep hg key

theorem slot_recorded (s : St) (sc : Sc) (oldS : CState) {st : CState} (hne : st ≠ .shutdown) (key : String) :
    slotOfKey (s.recorded sc oldS st) key = slotOfKey s key := by
  unfold slotOfKey
  rw [(recorded_live s sc oldS hne).2]
  rfl

theorem slot_republished (s : St) (order : List Slot) (key : String) :
    slotOfKey (s.republished order) key = slotOfKey s key := by
  unfold St.republished
  rfl

theorem slot_addConn {s : St} (t : Tables s) (h : Keyed s) (key : String) : slotOfKey s.addConn key = slotOfKey s key := by
  show (lookup s.affinity key).bind (lookup s.addConn.scRefs) = (lookup s.affinity key).bind (lookup s.scRefs)
  cases hl : lookup s.affinity key with
  | none => rfl
  | some x =>
    exact (lookup_addConn_scRefs s x).trans
      (if_neg fun e : s.nextSc = x => fresh_not_key t (e ▸ h.affOk (key, x) (lookup_some_mem hl)))

/-- a stage keeps `key` on its slot unless the operation is the successful completion of a BIND or UNBIND call
    (`rebinds`), and even then if the key is bound already (a BIND does not move a bound key) and the call does not
    unbind it (`hq`) -/
theorem slot_stage {s0 s s' : St} {op : Op} (st : Stage s0 op s s') (hct : contractOk s0 op) (h1 : Pool1 ci s)
    (h : Keyed s) (key : String)
    (hq : ¬ rebinds s0 op ∨ ((∃ v, lookup s.affinity key = some v) ∧ ¬ unbindsKey s0 key op)) :
    slotOfKey s' key = slotOfKey s key := by
  cases st with
  | addConn => exact slot_addConn h1.tab h key
  | swap sc _ slot r hl hg => exact slot_swapped h h1.bij h1.tab (mem_keys_of_lookup hl) hg key
  | record sc st _ oldS hst hsd => exact slot_recorded s sc oldS (not_shutdown_of_contract hct hsd hst) key
  | publish sc st order oldS hst hsd =>
    exact (slot_republished _ order key).trans (slot_recorded s sc oldS (not_shutdown_of_contract hct hsd hst) key)
  | bindAll call reply ks r hm hcmd =>
    -- the call rebinds, so the key is bound: a BIND does not move it
    obtain ⟨⟨v, hv⟩, -⟩ := hq.resolve_left fun hq => hq ⟨call, hm, rfl, by simp [hcmd]⟩
    show (lookup (ks.foldl (fun s k => bindSubConn s k r.subConn) s).affinity key).bind _ = _
    rw [(bindAll_affinity r.subConn ks s).2 key v hv, slotOfKey, hv]
    rfl
  | unbind call reply hm hcmd =>
    -- the call rebinds, so it unbinds another key
    obtain ⟨-, hu⟩ := hq.resolve_left fun hq => hq ⟨call, hm, rfl, by simp [hcmd]⟩
    show (lookup (unbindSubConn s call.boundKey).affinity key).bind _ = _
    rw [unbind_other s fun he => hu ⟨call, hm, rfl, hcmd, he⟩]
    rfl
  | _ => rfl

theorem slot_step {s : St} (h : Keyed s) (h1 : Pool1 ci s) (op : Op) (hct : contractOk s op) (key : String)
    (hq : ¬ rebinds s op ∨ ((∃ slot, slotOfKey s key = some slot) ∧ ¬ unbindsKey s key op)) :
    slotOfKey (step s op).1 key = slotOfKey s key :=
  -- the key stays on its slot from stage to stage; so it stays bound, which is what a BIND completion needs
  (step_induct (P := fun a => (Pool1 ci a ∧ Keyed a) ∧ slotOfKey a key = slotOfKey s key) op
    (fun st h => ⟨⟨pool1_stage st hct h.1.1, keyed_stage st hct h.1.1.bij h.1.2⟩,
      (slot_stage st hct h.1.1 h.1.2 key
        (hq.imp_right fun ⟨⟨_, hs⟩, hu⟩ => ⟨(Option.bind_eq_some_iff.mp (h.2.trans hs)).imp fun _ => And.left, hu⟩)).trans h.2⟩)
    ⟨⟨h1, h⟩, rfl⟩).2

/-- **C01** after every history (under gRPC's contract) a bound key names a connection that is in
    the pool now and sits in a slot that holds exactly that connection — also after any number of
    refreshes of that slot.  Together with `bound_ready_home` (a BOUND / UNBIND pick for a bound
    key whose connection is READY is placed on `lookup scRefs (lookup affinity key)`) this is
    "a bound key travels on the channel it was bound to". -/
theorem bound_key_in_pool (ci : CfgInput) (ops : List Op) (hok : RunOk (init ci) ops) (key : String) (sc : Sc)
    (hb : lookup (run (init ci) ops).affinity key = some sc) :
    ∃ slot, lookup (run (init ci) ops).scRefs sc = some slot ∧ subAt (run (init ci) ops) slot = some sc :=
  (pool1_run ci ops hok).exists_slot ((keyed_run ci ops hok).affOk (key, sc) (lookup_some_mem hb))

/-- the same for the temporary (fallback) assignment of a bound key -/
theorem fallback_key_in_pool (ci : CfgInput) (ops : List Op) (hok : RunOk (init ci) ops) (key : String) (sc : Sc)
    (hb : lookup (run (init ci) ops).fallback key = some sc) :
    ∃ slot, lookup (run (init ci) ops).scRefs sc = some slot ∧ subAt (run (init ci) ops) slot = some sc :=
  (pool1_run ci ops hok).exists_slot ((keyed_run ci ops hok).fbOk (key, sc) (lookup_some_mem hb))

/-- **C01** the slot a key is bound to is changed by nothing but the successful completion of a
    BIND or UNBIND call: not by load, picks on current or stale pickers, failed completions, state
    reports, resolver updates, pool growth — and not by a refresh of the slot, which swaps the
    connection object under the key -/
theorem binding_stable (ci : CfgInput) (ops : List Op) (hok : RunOk (init ci) ops) (op : Op)
    (hct : contractOk (run (init ci) ops) op) (hnb : ¬ rebinds (run (init ci) ops) op) (key : String) :
    slotOfKey (step (run (init ci) ops) op).1 key = slotOfKey (run (init ci) ops) key :=
  slot_step (keyed_run ci ops hok) (pool1_run ci ops hok) op hct key (Or.inl hnb)

/-- non-vacuity: a BIND succeeds with key "k" on slot 0, then the slot is refreshed (a call ends
    with a client-side deadline, the replacement becomes READY): the key now names connection 1,
    which sits in slot 0 -/
def c1cfg : CfgInput := .given { min := 1, max := 1, wm := 100, fb := false, rr := false, uc := 1, ums := 1, methods := true }
def c1ops : List Op := [.ccs 1, .scs 0 .ready [0],
  .pick 1 0 "bind" .gcp none (.msg ⟨"", []⟩), .done 1 .nil ⟨"k", []⟩,
  .pick 2 0 "plain" .gcp (some 0) (.msg ⟨"", []⟩), .adv 2000001, .done 2 .deClient ⟨"", []⟩,
  .scs 1 .ready [0]]
example : (run (init c1cfg) c1ops).affinity = [("k", 1)] ∧ (run (init c1cfg) c1ops).scRefs = [(1, 0)] ∧
    slotOfKey (run (init c1cfg) c1ops) "k" = some 0 ∧ slotOfKey (run (init c1cfg) (c1ops.take 4)) "k" = some 0 := by
  decide +kernel

end GcpVerif.Pool
