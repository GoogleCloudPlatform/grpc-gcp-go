/-
Two statements about the table of a MultiEndpoint:

* C13 `list_and_priorities`: after any history the table holds exactly the endpoints of the last
  accepted list (the constructor's or the last accepted SetEndpoints'), each once, and an endpoint's
  priority is a position at which the list names it. (This is the machine `stepRaw`/`initRaw`; the API
  drops later repetitions of a name first, so that position is the first occurrence: Proofs/MEApi.lean.)
* C14 `recovering_timer_count`: there are at least as many live recovery timers as recovering
  endpoints (a counting consequence of the per-endpoint timer invariant `TInv.recov`).
-/
import GcpVerif.Proofs.ME3
namespace GcpVerif.ME

/-- identity and priority of every table entry, in table order -/
def vw (s : St) : List (String × Nat) := s.eps.map fun e => (e.id, e.prio)

theorem ids_eq_vw (s : St) : ids s.eps = (vw s).map (·.1) := by
  simp [ids, vw, List.map_map, Function.comp]

theorem vw_of_map {s s' : St} {F : Ep → Ep} (hF : ∀ e, (F e).id = e.id ∧ (F e).prio = e.prio)
    (heps : s'.eps = s.eps.map F) : vw s' = vw s := by
  simp only [vw, heps, List.map_map]
  apply List.map_congr_left
  intro e _
  show ((F e).id, (F e).prio) = (e.id, e.prio)
  rw [(hF e).1, (hF e).2]

theorem vw_of_eps {s s' : St} (h : s'.eps = s.eps) : vw s' = vw s := by simp [vw, h]

theorem mem_of_vw_eq {s s' : St} (hv : vw s' = vw s) {e : Ep} (he : e ∈ s'.eps) :
    ∃ y ∈ s.eps, e.id = y.id ∧ e.prio = y.prio := by
  have : (e.id, e.prio) ∈ vw s' := List.mem_map.mpr ⟨e, he, rfl⟩
  rw [hv] at this
  obtain ⟨y, hy, heq⟩ := List.mem_map.mp this
  simp only [Prod.mk.injEq] at heq
  exact ⟨y, hy, heq.1.symm, heq.2.symm⟩

theorem vw_opSetAvail (s : St) (e : String) (a : Bool) : vw (opSetAvail s e a) = vw s := by
  obtain ⟨F, heq, hF, -⟩ := report_table (sea_spec s e a)
  exact vw_of_map hF ((muc_eps (setEndpointAvailability s e a)).trans heq)

/-- no operation other than an accepted SetEndpoints changes which endpoints the table holds or
    their priorities -/
theorem vw_step (s : St) (op : Op) (h : ∀ l, op = .setEndpoints l → l.isEmpty = true) :
    vw (stepRaw s op).1 = vw s := by
  cases op with
  | setAvail e a =>
    dsimp only [stepRaw]
    exact vw_opSetAvail s e a
  | setEndpoints l => simp [stepRaw, opSetEndpoints, h l rfl]
  | advance dt => rfl
  | fire tid =>
    rcases opFire_eps s tid with heq | ⟨-, -, e, -, -, -, -, heq⟩
    · exact vw_of_eps heq
    · exact vw_of_map (F := fun y => if y.id == e.id then touch .unavailable s.now y else y)
        (fun y => by split <;> exact ⟨rfl, rfl⟩) heq

/-- the table is exactly the list: every entry sits at a position of the list that names it, every
    name of the list has an entry, no name has two -/
structure ListOk (s : St) (l : List String) : Prop where
  nd : (ids s.eps).Nodup
  pos : ∀ e ∈ s.eps, l[e.prio]? = some e.id
  cover : ∀ id ∈ l, id ∈ ids s.eps

theorem ListOk.ids_sub {s : St} {l : List String} (h : ListOk s l) : ∀ e ∈ s.eps, e.id ∈ l :=
  fun e he => List.mem_of_getElem? (h.pos e he)

theorem listOk_of_vw {s s' : St} {l : List String} (hv : vw s' = vw s) (h : ListOk s l) : ListOk s' l := by
  have hids : ids s'.eps = ids s.eps := by rw [ids_eq_vw, ids_eq_vw, hv]
  refine ⟨hids ▸ h.nd, ?_, fun id hid => hids ▸ h.cover id hid⟩
  intro e he
  obtain ⟨y, hy, e1, e2⟩ := mem_of_vw_eq hv he
  rw [e1, e2]; exact h.pos y hy

theorem ids_filter_nodup {l : List Ep} (p : Ep → Bool) (h : (ids l).Nodup) : (ids (l.filter p)).Nodup := by
  apply List.Nodup.sublist _ h
  exact List.Sublist.map _ List.filter_sublist

theorem nodup_ids_addNew {s : St} {x : String} (i : Nat) (h : (ids s.eps).Nodup) (hf : findEp s.eps x = none) :
    (ids (addNew s x i).eps).Nodup := by
  rw [ids_addNew]
  refine List.nodup_append.mpr ⟨h, by simp, fun a ha b hb hab => ?_⟩
  obtain ⟨e, he, rfl⟩ := List.mem_map.mp ha
  exact findEp_none.mp hf e he (hab.trans (List.mem_singleton.mp hb))

theorem setEndpoints_list (s : St) (l : List String) (hl : l.isEmpty = false) (hnd : (ids s.eps).Nodup) :
    ListOk (opSetEndpoints s l).1 l := by
  simp only [opSetEndpoints, hl, Bool.false_eq_true, ↓reduceIte]
  have hw := setEndpoints_walked (inj_of_nodup_map _ hnd) l
  refine listOk_of_vw (vw_of_eps (muc_eps _))
    ⟨?_, fun e he => hw.pos e he ((hw.known e he).elim id id), addOrUpdate_cover _ l⟩
  exact addOrUpdate_ind' (P := fun s => (ids s.eps).Nodup) (fun _ _ i h hf => nodup_ids_addNew i h hf)
    (fun s x i h => by rw [ids_setPrio]; exact h) l _ (ids_filter_nodup _ hnd)

theorem init_list {r d : Int} {l : List String} {s : St} (h : initRaw r d l = some s) : ListOk s l := by
  have hw := init_walked h
  refine ⟨?_, fun e he => hw.pos e he ((hw.known e he).elim id False.elim), init_cover h⟩
  exact initRaw_ind (P := fun s _ => (ids s.eps).Nodup) h (fun _ _ => List.nodup_nil)
    (fun s _ x hs => nodup_ids_addNew _ (ids_filter_nodup _ hs) (findEp_moveOut_self s x))

/-- the list in force after an operation: an accepted SetEndpoints replaces it -/
def lastList (l : List String) : Op → List String
  | .setEndpoints l' => if l'.isEmpty then l else l'
  | _ => l

/-- reachability together with the last accepted list (ghost) -/
inductive ReachL : St → List String → Prop where
  | initRaw {r d : Int} {l : List String} {s : St} : 0 ≤ r → 0 ≤ d → initRaw r d l = some s → ReachL s l
  | stepRaw {s : St} {l : List String} (op : Op) : ReachL s l → ReachL (stepRaw s op).1 (lastList l op)

theorem ReachL.reach {s : St} {l : List String} (h : ReachL s l) : Reach s := by
  induction h with
  | initRaw hr hd hi => exact Reach.initRaw hr hd hi
  | stepRaw op _ ih => exact Reach.stepRaw op ih

theorem reach_has_list {s : St} (h : Reach s) : ∃ l, ReachL s l := by
  induction h with
  | initRaw hr hd hi => exact ⟨_, ReachL.initRaw hr hd hi⟩
  | stepRaw op _ ih => obtain ⟨l, hl⟩ := ih; exact ⟨_, ReachL.stepRaw op hl⟩

/-- **C13** after any history — reports, list replacements (accepted or rejected), clock advances,
    timers firing — the table holds exactly the endpoints of the last accepted list, each once, and
    every endpoint's priority is a position at which that list names it -/
theorem list_and_priorities {s : St} {l : List String} (h : ReachL s l) : ListOk s l := by
  induction h with
  | initRaw _ _ hi => exact init_list hi
  | @stepRaw s l op _ ih =>
    cases op with
    | setEndpoints l' =>
      cases hl' : l'.isEmpty with
      | true =>
        simp only [lastList, hl', ↓reduceIte]
        exact listOk_of_vw (vw_step s _ (fun _ h => by cases h; exact hl')) ih
      | false =>
        simp only [lastList, hl', Bool.false_eq_true, ↓reduceIte]
        exact setEndpoints_list s l' hl' ih.nd
    | _ => exact listOk_of_vw (vw_step s _ (fun _ h => by cases h)) ih

theorem reach_ids_nodup {s : St} (h : Reach s) : (ids s.eps).Nodup := by
  obtain ⟨l, hl⟩ := reach_has_list h
  exact (list_and_priorities hl).nd

-- the raw machine on a list with a repetition (the API never passes it one, see MEApi.lean)
example : ∃ s, ReachL s ["b", "a", "b"] ∧ vw s = [("a", 1), ("b", 2)] :=
  ⟨_, ReachL.initRaw (r := 5) (d := 0) (l := ["b", "a", "b"]) (by decide) (by decide) rfl, by decide⟩

/-- **C14** in every reachable state there are at least as many live (not stopped) recovery timers
    as there are recovering endpoints: each recovering endpoint owns its own one -/
theorem recovering_timer_count {s : St} (h : Reach s) : c14_recovering_timer s = true := by
  have ht := reach_tinv h
  unfold c14_recovering_timer liveRecoveryCount
  apply decide_eq_true
  have hle := List.Nodup.length_le_of_subset
    (l₁ := (s.eps.filter fun e => e.status == .recovering).map (·.timer))
    (l₂ := ((liveTimers s).filter isRecoveryTimer).map fun t => some t.tid) ?_ ?_
  · simpa using hle
  · -- distinct recovering endpoints own distinct timers
    have hp : s.eps.Pairwise (fun a b => a.id ≠ b.id) := List.pairwise_map.mp (reach_ids_nodup h)
    refine List.pairwise_map.mpr ((hp.filter _).imp_of_mem fun {a b} ha hb hab heq => ?_)
    have ha' := List.mem_filter.mp ha
    have hb' := List.mem_filter.mp hb
    obtain ⟨t, _, hta, _, _⟩ := ht.recov a ha'.1 (by simpa using ha'.2) (by simp)
    exact hab (ht.objId a ha'.1 b hb'.1
      (ht.own a (mem_U.mpr (.inl ha'.1)) b (mem_U.mpr (.inl hb'.1)) t.tid hta (heq ▸ hta)))
  · intro o ho
    obtain ⟨x, hx, rfl⟩ := List.mem_map.mp ho
    have hx' := List.mem_filter.mp hx
    obtain ⟨t, htm, htx, hlive, hk⟩ := ht.recov x hx'.1 (by simpa using hx'.2) (by simp)
    exact List.mem_map.mpr ⟨t, List.mem_filter.mpr ⟨List.mem_filter.mpr ⟨htm, by simp [hlive]⟩,
      by simp [isRecoveryTimer, hk]⟩, htx.symm⟩

end GcpVerif.ME
