/-
C02.1 — stream accounting, for every reachable state of the pool model:
each slot's `streamsCnt` is exactly the number of calls placed on it whose completion has not run.
-/
import GcpVerif.Proofs.PoolStages
namespace GcpVerif.Pool

def streamsVec (s : St) : List Int := s.refs.map (·.streamsCnt)

def inflight (s : St) (i : Slot) : Nat := (s.calls.filter fun c => c.slot == i).length

def allIds (s : St) : List Nat := s.calls.map (·.id) ++ s.waiters.map (·.id)

structure StreamsInv (s : St) : Prop where
  exact : ∀ i (hi : i < s.refs.length), (streamsVec s)[i]? = some ((inflight s i : Nat) : Int)
  slotsOk : ∀ c ∈ s.calls, c.slot < s.refs.length
  ids : (allIds s).Nodup

theorem StreamsInv.cnt {s : St} (h : StreamsInv s) {i : Slot} {r : RefSt} (hr : s.refs[i]? = some r) :
    r.streamsCnt = (inflight s i : Int) := by
  have := h.exact i (List.getElem?_eq_some_iff.mp hr).1
  rw [streamsVec, List.getElem?_map, hr] at this
  exact Option.some.inj this

theorem exact_of_cnt {s : St} (h : ∀ i r, s.refs[i]? = some r → r.streamsCnt = (inflight s i : Int)) :
    ∀ i, i < s.refs.length → (streamsVec s)[i]? = some ((inflight s i : Nat) : Int) := by
  intro i hi
  rw [streamsVec, List.getElem?_map, List.getElem?_eq_getElem hi]
  exact congrArg some (h i _ (List.getElem?_eq_getElem hi))

theorem inflight_eq (s : St) (i : Slot) : inflight s i = ((s.calls.map (·.slot)).filter (· == i)).length := by
  rw [List.filter_map, List.length_map]; rfl

theorem inv_frame {s : St} (h : StreamsInv s) {refs : List RefSt} (hr : refs.map (·.streamsCnt) = streamsVec s)
    {cfgIn cfg addrs nReady nConn nTF aggr affinity fallback scStates scRefs rr refreshingMap picker nextSc failN scAddrs removed
      published now held} :
    StreamsInv { s with cfgIn, cfg, addrs, nReady, nConn, nTF, aggr, affinity, fallback, scStates, scRefs, rr, refreshingMap,
                        picker, nextSc, failN, scAddrs, removed, published, now, held, refs } :=
  have hlen : refs.length = s.refs.length := length_of_map hr
  ⟨fun i hi => (congrArg (·[i]?) hr).trans (h.exact i (Nat.lt_of_lt_of_eq hi hlen)),
    fun c hc => Nat.lt_of_lt_of_eq (h.slotsOk c hc) hlen.symm, h.ids⟩

theorem inv_addConn {s : St} (h : StreamsInv s) : StreamsInv s.addConn := by
  refine ⟨exact_of_cnt fun i r hr => ?_, fun c hc => Nat.lt_of_lt_of_le (h.slotsOk c hc) ?_, h.ids⟩
  · rw [show s.addConn.refs = s.refs ++ [_] from rfl, List.getElem?_append] at hr
    by_cases hi : i < s.refs.length
    · rw [if_pos hi] at hr; exact h.cnt hr
    · have hz : inflight s i = 0 := List.length_eq_zero_iff.mpr
        (List.filter_eq_nil_iff.mpr fun c hc hb => hi (beq_iff_eq.mp hb ▸ h.slotsOk c hc))
      rw [if_neg hi] at hr
      rw [List.mem_singleton.mp (List.mem_of_getElem? hr)]
      exact (congrArg Nat.cast hz).symm
  · show s.refs.length ≤ (s.refs ++ [_]).length
    rw [List.length_append]; exact Nat.le_add_right _ _

theorem exact_modify {s s' : St} (h : StreamsInv s) {j : Slot} {d : Int}
    (hr : s'.refs = s.refs.modify j fun r => { r with streamsCnt := r.streamsCnt + d })
    (hc : ∀ i, ((inflight s' i : Nat) : Int) = inflight s i + if j = i then d else 0) :
    ∀ i, i < s'.refs.length → (streamsVec s')[i]? = some ((inflight s' i : Nat) : Int) := by
  refine exact_of_cnt fun i r' hr' => ?_
  rw [hr, List.getElem?_modify] at hr'
  cases hg : s.refs[i]? with
  | none => rw [hg] at hr'; cases hr'
  | some r =>
    rw [hg] at hr'
    cases hr'
    show (if j = i then ({ r with streamsCnt := r.streamsCnt + d } : RefSt) else r).streamsCnt = _
    rw [hc, ← h.cnt hg]
    by_cases hji : j = i
    · rw [if_pos hji, if_pos hji]
    · rw [if_neg hji, if_neg hji]; exact (Int.add_zero _).symm

theorem placed_inv {s : St} (h : StreamsInv s) (c : Call) {r : RefSt} (hg : getRef s c.slot = some r)
    (hid : c.id ∉ allIds s) : StreamsInv (s.placed c) := by
  refine ⟨exact_modify (d := 1) h rfl fun i => ?_, fun x hx => ?_, ?_⟩
  · show (((s.calls ++ [c]).filter fun x => x.slot == i).length : Int) = _
    rw [List.filter_append, List.length_append, List.filter_cons]
    by_cases hs : c.slot = i
    · rw [if_pos hs, if_pos (beq_iff_eq.mpr hs)]; rfl
    · rw [if_neg hs, if_neg fun e => hs (beq_iff_eq.mp e)]; exact (Int.add_zero _).symm
  · show x.slot < (s.refs.modify c.slot _).length
    rw [List.length_modify]
    rcases List.mem_append.mp hx with hx | hx
    · exact h.slotsOk x hx
    · rw [List.mem_singleton.mp hx]; exact (List.getElem?_eq_some_iff.mp hg).1
  · show ((s.calls ++ [c]).map (·.id) ++ s.waiters.map (·.id)).Nodup
    rw [List.map_append, List.append_assoc]
    exact List.perm_middle.nodup_iff.mpr (List.nodup_cons.mpr ⟨hid, h.ids⟩)

theorem not_used_not_mem {s : St} {call : Nat} (h : callIdUsed s call = false) : call ∉ allIds s := by
  simp only [callIdUsed, Bool.or_eq_false_iff, List.any_eq_false, beq_iff_eq] at h
  simp only [allIds, List.mem_append, List.mem_map, not_or, not_exists, not_and]
  exact ⟨fun c hc heq => h.1.1 c hc heq, fun w hw heq => h.1.2 w hw heq⟩

theorem completeCall_inv {s : St} (h : StreamsInv s) (call : Call) (hm : call ∈ s.calls) :
    StreamsInv (completeCall s call) := by
  refine ⟨exact_modify (d := -1) h rfl fun i => ?_, fun c hc => ?_,
    h.ids.sublist ((List.filter_sublist.map _).append (List.Sublist.refl _))⟩
  · -- the call is the only one with its id: the calls still in flight are the others
    have hcount : inflight s i = ((call :: (completeCall s call).calls).filter fun c => c.slot == i).length :=
      ((perm_cons_filter_ne (f := Call.id) (List.nodup_append.mp h.ids).1 hm).filter _).length_eq
    rw [hcount, List.filter_cons]
    by_cases hs : call.slot = i
    · rw [if_pos (beq_iff_eq.mpr hs), if_pos hs, List.length_cons, inflight]; omega
    · rw [if_neg fun e => hs (beq_iff_eq.mp e), if_neg hs]; rfl
  · show c.slot < (s.refs.modify call.slot _).length
    rw [List.length_modify]
    exact h.slotsOk c (List.mem_filter.mp hc).1

theorem drop_waiter_inv {s : St} (h : StreamsInv s) (w : Waiter) (hw : w ∈ s.waiters) :
    StreamsInv { s with waiters := s.waiters.filter fun x => x.id != w.id } ∧
    w.id ∉ allIds { s with waiters := s.waiters.filter fun x => x.id != w.id } := by
  refine ⟨⟨h.exact, h.slotsOk, h.ids.sublist ((List.Sublist.refl _).append (List.filter_sublist.map _))⟩, fun hm => ?_⟩
  rcases List.mem_append.mp hm with hm | hm
  · -- no call in flight has the id of a waiting pick
    exact (List.nodup_append.mp h.ids).2.2 _ hm _ (List.mem_map_of_mem hw) rfl
  · obtain ⟨x, hx, he⟩ := List.mem_map.mp hm
    exact bne_iff_ne.mp (List.mem_filter.mp hx).2 he

theorem woken_inv {s : St} (h : StreamsInv s) {w : Waiter} (hw : w ∈ s.waiters) {r : RefSt}
    (hg : getRef s w.slot = some r) : StreamsInv (s.woken w) :=
  placed_inv (drop_waiter_inv h w hw).1 _ hg (drop_waiter_inv h w hw).2

theorem inv_addWaiter {s : St} (h : StreamsInv s) {w : Waiter} (hf : callIdUsed s w.id = false) :
    StreamsInv { s with waiters := s.waiters ++ [w] } := by
  refine ⟨h.exact, h.slotsOk, ?_⟩
  show (s.calls.map (·.id) ++ (s.waiters ++ [w]).map (·.id)).Nodup
  rw [List.map_append, ← List.append_assoc]
  exact (List.perm_append_singleton _ _).nodup_iff.mpr (List.nodup_cons.mpr ⟨not_used_not_mem hf, h.ids⟩)

theorem waiters_nodup_stage {s0 s s' : St} {op : Op} (st : Stage s0 op s s') (h : (s.waiters.map (·.id)).Nodup) :
    (s'.waiters.map (·.id)).Nodup := by
  cases st with
  | addWaiter w hf =>
    dsimp only
    rw [List.map_append]
    exact (List.perm_append_singleton _ _).nodup_iff.mpr
      (List.nodup_cons.mpr ⟨fun hm => not_used_not_mem hf (List.mem_append_right _ hm), h⟩)
  | ctxDone | dropWaiter | wake => exact h.sublist (List.filter_sublist.map _)
  | publish sc st order oldS => unfold St.republished; exact h
  | _ => exact h

theorem streams_stage {s0 s s' : St} {op : Op} (hn : ((stepCore s0 op).1.waiters.map (·.id)).Nodup)
    (st : Stage s0 op s s') (h : StreamsInv s) : StreamsInv s' := by
  cases st with
  | addConn => exact inv_addConn h
  | addWaiter w hf => exact inv_addWaiter h hf
  | place c r hg hf => exact placed_inv h c hg (not_used_not_mem hf)
  | ctxDone w r hw hg => exact woken_inv h hw hg
  | wake w r hg hw => exact woken_inv h (hw hn) hg
  | dropWaiter w hw => exact (drop_waiter_inv h w hw).1
  | completeCall call err reply hm => exact completeCall_inv h call hm
  | detReset | deInc | startRefresh | swap => exact inv_frame h (map_modify_of (·.streamsCnt) (by intro; rfl) _ _)
  | bindAll call reply ks r => exact inv_frame h (bindAll_refs_map (·.streamsCnt) (fun _ _ => rfl) _ ks _)
  | unbind call reply => exact inv_frame h (unbind_refs_map (·.streamsCnt) (fun _ _ => rfl) _ _)
  | _ => exact inv_frame h rfl

/-- two walks: the `wake` stage hands over `w ∈ s.waiters` only if the picks waiting after the core of the operation
    have distinct ids, so the core is walked first for that (`waiters_nodup_stage`), then the whole step -/
theorem step_inv {s : St} (h : StreamsInv s) (op : Op) : StreamsInv (step s op).1 :=
  step_induct op (streams_stage (stepCore_induct op waiters_nodup_stage (List.nodup_append.mp h.ids).2.1)) h

theorem init_inv (ci : CfgInput) : StreamsInv (init ci) :=
  ⟨fun _ hi => absurd hi (Nat.not_lt_zero _), fun _ hc => (nomatch hc), List.nodup_nil⟩

theorem run_inv (ci : CfgInput) (ops : List Op) : StreamsInv (run (init ci) ops) :=
  run_induct ci (init_inv ci) (fun _ op h => step_inv h op) ops

/-- **C02.1** For every configuration and every finite history of resolver updates, state reports,
    picks (any published picker, any method, context, request), completions (any outcome, any order,
    also after the channel was refreshed or left READY), clock advances and factory failures: each
    channel's active-stream count equals the number of calls placed on it whose completion callback
    has not run — hence never negative, unchanged by a refresh, zero when nothing is in flight. -/
theorem streams_exact (ci : CfgInput) (ops : List Op) :
    streamsExact (run (init ci) ops).refs ((run (init ci) ops).calls.map (·.slot)) = true := by
  have h := run_inv ci ops
  generalize run (init ci) ops = s at h
  rw [streamsExact, List.all_eq_true]
  intro i _
  cases hr : s.refs[i]? with
  | none => rfl
  | some r => exact beq_iff_eq.mpr ((h.cnt hr).trans (congrArg Nat.cast (inflight_eq s i)))

theorem streams_nonneg (ci : CfgInput) (ops : List Op) :
    ∀ r ∈ (run (init ci) ops).refs, 0 ≤ r.streamsCnt := by
  intro r hr
  obtain ⟨i, hi⟩ := List.mem_iff_getElem?.mp hr
  rw [(run_inv ci ops).cnt hi]
  exact Int.natCast_nonneg _

theorem streams_zero_when_idle (ci : CfgInput) (ops : List Op)
    (hidle : (run (init ci) ops).calls = []) : ∀ r ∈ (run (init ci) ops).refs, r.streamsCnt = 0 := by
  intro r hr
  obtain ⟨i, hi⟩ := List.mem_iff_getElem?.mp hr
  rw [(run_inv ci ops).cnt hi, inflight, hidle]
  rfl

end GcpVerif.Pool
