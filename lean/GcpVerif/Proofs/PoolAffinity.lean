/-
C01 end to end, for every history under gRPC's contract `RunOk`: a key bound to a slot stays bound to that slot
through every continuation in which no UNBIND call *for that key* completes successfully, whatever else happens —
other BIND and UNBIND completions, failed completions, load, stopped picks, growth, resolver updates, state reports,
refreshes of the slot, which swap the connection object under the key (`bound_stays`); a BOUND call for such a key on
any published picker, current or superseded, is placed on the connection now in that slot whenever it is READY
(`bound_pick_home`); and the two together (`bound_call_travels_home`).
-/
import GcpVerif.Proofs.PoolKeys
namespace GcpVerif.Pool

variable {ci : CfgInput}

theorem stable_step_key {s : St} (h : Keyed s) (h1 : Pool1 ci s) (op : Op) (hct : contractOk s op)
    {key : String} {v : Sc} (hb : lookup s.affinity key = some v) (hno : ¬ unbindsKey s key op) :
    slotOfKey (step s op).1 key = slotOfKey s key := by
  refine slot_step h h1 op hct key (Or.inr ⟨Option.isSome_iff_exists.mp ?_, hno⟩)
  rw [slotOfKey, hb]
  exact lookup_isSome.mpr (h.affOk (key, v) (lookup_some_mem hb))

/-- no operation of `ops`, applied in the state it meets, is a successful UNBIND completion for `key` -/
def NoUnbind (key : String) : St → List Op → Prop
  | _, [] => True
  | s, op :: ops => ¬ unbindsKey s key op ∧ NoUnbind key (step s op).1 ops

theorem bound_stays_foldl (key : String) (slot : Slot) (ops : List Op) : ∀ s, Keyed s → Pool1 ci s → RunOk s ops →
    NoUnbind key s ops → slotOfKey s key = some slot →
    slotOfKey (ops.foldl (fun s op => (step s op).1) s) key = some slot := by
  induction ops with
  | nil => intro s _ _ _ _ hb; exact hb
  | cons op ops ih =>
    intro s hk h1 hr hn hb
    have hs := slot_step hk h1 op hr.1 key (Or.inr ⟨⟨slot, hb⟩, hn.1⟩)
    exact ih _ (keyed_step hk h1 op hr.1) (pool1_step h1 op hr.1) hr.2 hn.2 (hs.trans hb)

/-- **C01** once `key` is bound to `slot` (after any history `ops1`), it is bound to `slot` after every
    continuation `ops2` in which no UNBIND call for `key` completes successfully -/
theorem bound_stays (ci : CfgInput) (ops1 ops2 : List Op) (hok : RunOk (init ci) (ops1 ++ ops2))
    (key : String) (slot : Slot) (hb : slotOfKey (run (init ci) ops1) key = some slot)
    (hno : NoUnbind key (run (init ci) ops1) ops2) :
    slotOfKey (run (init ci) (ops1 ++ ops2)) key = some slot := by
  obtain ⟨hok1, hok2⟩ := runOk_append hok
  have : run (init ci) (ops1 ++ ops2) = ops2.foldl (fun s op => (step s op).1) (run (init ci) ops1) := by
    unfold run; rw [List.foldl_append]
  rw [this]
  exact bound_stays_foldl key slot ops2 _ (keyed_run ci ops1 hok1) (pool1_run ci ops1 hok1) hok2 hno hb

/-- a BOUND call for a key bound to `slot` is placed on the slot's connection while that connection is READY.  Of the
    pool's invariants this needs only that the slot table points at slots holding that very connection (`Half.refOf`,
    which holds in every reachable state; `Bij.refOf` under the contract) -/
theorem bound_pick_slot {s : St} (href : ∀ sc slot, lookup s.scRefs sc = some slot → subAt s slot = some sc)
    {c : Cfg} (hc : s.cfg = some c) (hm : c.methods = true)
    (call pn : Nat) (dl : Option Int) (key : String) (ks : List String) (hk : key ≠ "")
    (hfree : (callIdUsed s call || pickerBusy s pn) = false)
    {st : CState} {l : List Slot} (hp : s.published[pn]? = some (st, .gcp l)) (hl : l ≠ [])
    {slot : Slot} (hb : slotOfKey s key = some slot)
    {r : RefSt} (hg : getRef s slot = some r) (hr : isReadySc s r.subConn = true) :
    (opPick s call pn "bound" .gcp dl (.msg ⟨key, ks⟩)).2 = [.placed r.subConn] := by
  obtain ⟨sc, hsc, hslot⟩ := Option.bind_eq_some_iff.mp hb
  -- the slot holds the connection the key names, which is READY: the keyed lookup answers with the slot
  have hrsc : some r.subConn = some sc := (getRef_subAt hg).symm.trans (href sc slot hslot)
  have hgr : getReadySubConnRef s c key = (s, some slot, true) := by
    rw [bound_ready_home hsc (Option.some.inj hrsc ▸ hr), hslot]
  exact bound_pick_placed hc hm call pn dl key ks hk hfree hp hl hgr hg

/-- **C01** a BOUND call (method table entry `bound`, key read from the request) for a key that is
    bound to `slot`, issued on any published picker that lists at least one channel — the current one
    or a superseded one — while the slot's connection is READY: the call is placed on that connection,
    whatever the load on any channel -/
theorem bound_pick_home {s : St} (b : Bij s) {c : Cfg} (hc : s.cfg = some c) (hm : c.methods = true)
    (call pn : Nat) (dl : Option Int) (key : String) (ks : List String) (hk : key ≠ "")
    (hfree : (callIdUsed s call || pickerBusy s pn) = false)
    {st : CState} {l : List Slot} (hp : s.published[pn]? = some (st, .gcp l)) (hl : l ≠ [])
    {slot : Slot} (hb : slotOfKey s key = some slot)
    {r : RefSt} (hg : getRef s slot = some r) (hr : isReadySc s r.subConn = true) :
    (opPick s call pn "bound" .gcp dl (.msg ⟨key, ks⟩)).2 = [.placed r.subConn] :=
  bound_pick_slot b.refOf hc hm call pn dl key ks hk hfree hp hl hb hg hr

/-- **C01 (end to end)** bind, any continuation without a successful UNBIND of the key, then a BOUND
    call for the key on any usable published picker while the home connection is READY: it is placed
    on the connection that now sits in the slot the key was bound to -/
theorem bound_call_travels_home (ci : CfgInput) (ops1 ops2 : List Op) (hok : RunOk (init ci) (ops1 ++ ops2))
    (key : String) (hk : key ≠ "") (slot : Slot) (hb : slotOfKey (run (init ci) ops1) key = some slot)
    (hno : NoUnbind key (run (init ci) ops1) ops2)
    {c : Cfg} (hc : (run (init ci) (ops1 ++ ops2)).cfg = some c) (hm : c.methods = true)
    (call pn : Nat) (dl : Option Int) (ks : List String)
    (hfree : (callIdUsed (run (init ci) (ops1 ++ ops2)) call || pickerBusy (run (init ci) (ops1 ++ ops2)) pn) = false)
    {st : CState} {l : List Slot} (hp : (run (init ci) (ops1 ++ ops2)).published[pn]? = some (st, .gcp l)) (hl : l ≠ [])
    {r : RefSt} (hg : getRef (run (init ci) (ops1 ++ ops2)) slot = some r)
    (hr : isReadySc (run (init ci) (ops1 ++ ops2)) r.subConn = true) :
    (opPick (run (init ci) (ops1 ++ ops2)) call pn "bound" .gcp dl (.msg ⟨key, ks⟩)).2 = [.placed r.subConn] :=
  bound_pick_home (pool1_run ci _ hok).bij hc hm call pn dl key ks hk hfree hp hl
    (bound_stays ci ops1 ops2 hok key slot hb hno) hg hr

/-- the premises are met by a real history: bind "k" on slot 0, refresh the slot (connection 0 is
    replaced by connection 1), then a BOUND call for "k" on the only picker, published before the refresh, lands on
    connection 1 -/
example : slotOfKey (run (init c1cfg) (c1ops.take 4)) "k" = some 0 := by decide +kernel
example : (step (run (init c1cfg) c1ops) (.pick 9 0 "bound" .gcp none (.msg ⟨"k", []⟩))).2 = [.placed 1] := by
  decide +kernel

end GcpVerif.Pool
