/-
A pick stopped between the pool-size check and `newSubConn` (`Op.pickHold` / `Op.resume`):
the consistency of the split with the atomic pick.
-/
import GcpVerif.Proofs.PoolLocal
namespace GcpVerif.Pool

/-- the split is consistent with the atomic pick: whenever `pickHold` would stop a pick, the ordinary
    pick on the same state does exactly what the stopped pick does when it is resumed at once —
    `newSubConn`, then "no SubConn available" -/
theorem pick_eq_hold_resume (s : St) (call pn : Nat) (m : String) (ctx : CtxKind) (dl : Option Int) (req : Req)
    (hfree : (callIdUsed s call || pickerBusy s pn) = false) (hw : wouldGrow s pn m ctx req = true) :
    opPick s call pn m ctx dl req = ((newSubConn s).1, (newSubConn s).2 ++ [.res "nosc"]) := by
  -- `wouldGrow` holds on one path through `opPick` only: read the path off `hw`, then follow it
  unfold wouldGrow at hw
  split at hw
  · next st l c hp hc =>
    rw [Bool.and_eq_true, Bool.not_eq_true'] at hw
    obtain ⟨hne, hrest⟩ := hw
    split at hrest
    · next cmd loc key hrc =>
      rw [Bool.and_eq_true, Bool.and_eq_true, Bool.not_eq_true', Bool.or_eq_true, beq_iff_eq] at hrest
      obtain ⟨⟨hrr, hkey⟩, hlb⟩ := hrest
      split at hlb
      · next mn hl =>
        rw [Bool.and_eq_true, Bool.not_eq_true', decide_eq_false_iff_not] at hlb
        have hglb := above_watermark_grows (c := c) hl hlb.1 ((room_iff c s).mp hlb.2)
        have hcs : chooseSlot s c l key = ((newSubConn s).1, none, (newSubConn s).2) := by
          unfold chooseSlot
          by_cases hk : (key != "") = true
          · -- a key that is not bound: the keyed lookup reports it unknown
            have hnone : lookup s.affinity key = none :=
              Option.isNone_iff_eq_none.mp (hkey.resolve_left fun h => by rw [h] at hk; cases hk)
            rw [if_pos hk, unknown_key hnone]; exact hglb
          · rw [if_neg hk]; exact hglb
        simp only [opPick, hfree, hp, hc, hne, hrc, hrr, hcs, Bool.false_eq_true, ↓reduceIte, finishPick]
      · cases hlb
    · cases hrest
  · cases hw

end GcpVerif.Pool
