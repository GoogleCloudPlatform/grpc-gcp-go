/-
C17: protojson for the channel-pool schema, on JSON trees: what `render` writes for a configuration,
`parse` reads back as exactly that configuration — for every configuration a generated proto message
can hold (all field combinations, zero values, absent sub-messages, any number of method entries).
-/
import Std.Data.String.ToNat
import GcpVerif.Model.Config
import GcpVerif.Proofs.Lists
namespace GcpVerif.Config

theorem isDigits_repr (n : Nat) : isDigits (toString n) = true := by
  unfold isDigits
  rw [show toString n = Nat.repr n from rfl, Nat.toList_repr]
  simp only [Bool.and_eq_true, Bool.not_eq_eq_eq_not, Bool.not_true, List.all_eq_true]
  exact ⟨List.isEmpty_eq_false_iff.2 (List.ne_nil_of_length_pos Nat.length_toDigits_pos),
    fun c hc => Nat.isDigit_of_mem_toDigits (by decide) (by decide) hc⟩

theorem pUint_str (bits n : Nat) (h : n < 2^bits) : pUint bits (.str (toString n)) = some n := by
  unfold pUint
  simp only [isDigits_repr, ↓reduceIte]
  rw [show toString n = Nat.repr n from rfl, Nat.toNat?_repr]
  simp [h]

theorem pUint_num (bits n : Nat) (h : n < 2^bits) : pUint bits (.num n) = some n := by
  unfold pUint
  have : (0 : Int) ≤ (n : Int) ∧ (n : Int) < 2 ^ bits := ⟨by omega, by exact_mod_cast h⟩
  simp [this]

/-- a field that is omitted when it has its default value reads back either way -/
theorem opt_default {α : Type} [BEq α] [LawfulBEq α] {p : J → Option α} {d x : α} {v : J}
    (h0 : p .null = some d) (hv : p v = some x) : p (if (x != d) = true then v else .null) = some x := by
  by_cases hx : x = d
  · rw [hx, bne_self_eq_false, if_neg Bool.false_ne_true]; exact h0
  · rw [if_pos (bne_iff_ne.2 hx)]; exact hv

theorem pUint_opt_num (bits n : Nat) (h : n < 2^bits) :
    pUint bits (if (n != 0) = true then .num n else .null) = some n :=
  opt_default rfl (pUint_num bits n h)

theorem pUint_opt_str (bits n : Nat) (h : n < 2^bits) :
    pUint bits (if (n != 0) = true then .str (toString n) else .null) = some n :=
  opt_default rfl (pUint_str bits n h)

theorem pBool_opt (b : Bool) : pBool (if b = true then .bool true else .null) = some b := by
  cases b <;> rfl

theorem pString_opt (s : String) : pString (if (s != "") = true then .str s else .null) = some s :=
  opt_default rfl rfl

theorem pEnum_enumJ {names : List (String × Int)} (hn : (names.map (·.1)).Nodup) {n : Int}
    (h1 : -(2^31 : Int) ≤ n) (h2 : n < 2^31) : pEnum names (enumJ names n) = some n := by
  unfold enumJ
  cases hf : names.find? (fun p => p.2 == n) with
  | none => simp only [pEnum, h1, h2, and_self, ↓reduceIte]
  | some p =>
    have hv : p.2 = n := by simpa using List.find?_some hf
    simp only [pEnum, find?_fst_of_nodup hn (List.mem_of_find?_eq_some hf), Option.map_some, hv]

theorem pEnum_opt {names : List (String × Int)} (hn : (names.map (·.1)).Nodup) (n : Int)
    (h1 : -(2^31 : Int) ≤ n) (h2 : n < 2^31) :
    pEnum names (if (n != 0) = true then enumJ names n else .null) = some n :=
  opt_default rfl (pEnum_enumJ hn h1 h2)

theorem strategyNames_nodup : (strategyNames.map (·.1)).Nodup := by decide +kernel
theorem commandNames_nodup : (commandNames.map (·.1)).Nodup := by decide +kernel

theorem field_nil (t : List (String × String)) (name : String) : field t [] name = .null := rfl

theorem field_cons (t : List (String × String)) (k : String) (v : J) (l : List (String × J)) (name : String) :
    field t ((k, v) :: l) name = if canon t k == some name then v else field t l name := by
  unfold field
  rw [List.find?_cons]
  cases canon t k == some name <;> rfl

theorem field_opt (t : List (String × String)) (k : String) (b : Bool) (v : J) (l : List (String × J)) (name : String) :
    field t (optField k b v ++ l) name = if (b && canon t k == some name) = true then v else field t l name := by
  cases b with
  | false => simp [optField]
  | true => simp only [optField, ↓reduceIte, List.cons_append, List.nil_append, field_cons, Bool.true_and]

/-- every JSON name of the table is its own canonical name, and no name occurs twice -/
def goodTable (t : List (String × String)) : Bool :=
  (t.all fun p => canon t p.1 == some p.1) && (t.map (·.1)).eraseDups.length == t.length

theorem goodTable_spec {t : List (String × String)} (hg : goodTable t = true) :
    (∀ p ∈ t, canon t p.1 = some p.1) ∧ (t.map (·.1)).Nodup := by
  unfold goodTable at hg
  simp only [Bool.and_eq_true, List.all_eq_true, beq_iff_eq] at hg
  exact ⟨hg.1, nodup_of_eraseDups_length (by simpa using hg.2)⟩

theorem keys_of_sublist {t : List (String × String)} (hg : goodTable t = true) {ks : List String}
    (hs : ks.Sublist (t.map (·.1))) : (∀ k ∈ ks, canon t k = some k) ∧ ks.Nodup := by
  obtain ⟨hc, hn⟩ := goodTable_spec hg
  refine ⟨fun k hk => ?_, hs.nodup hn⟩
  obtain ⟨p, hp, rfl⟩ := List.mem_map.1 (hs.subset hk)
  exact hc p hp

theorem keysOk_of_sublist {t : List (String × String)} (hg : goodTable t = true) {l : List (String × J)}
    (hs : (l.map (·.1)).Sublist (t.map (·.1))) : keysOk t l = true := by
  obtain ⟨hc, hn⟩ := keys_of_sublist hg hs
  have hcs : (l.map fun p => canon t p.1) = (l.map (·.1)).map some := by
    rw [List.map_map]
    exact List.map_congr_left fun p hp => hc p.1 (List.mem_map_of_mem (f := (·.1)) hp)
  have hn' : ((l.map (·.1)).map some).Nodup :=
    List.pairwise_map.2 (hn.imp fun hab h => hab (Option.some.inj h))
  unfold keysOk
  simp only [hcs, eraseDups_of_nodup hn', Bool.and_eq_true, List.all_eq_true, beq_self_eq_true,
    and_true]
  intro o ho
  obtain ⟨k, _, rfl⟩ := List.mem_map.1 ho
  rfl

/-- an object written field by field: the entry `(k, b, v)` is present when `b` -/
def objOf : List (String × Bool × J) → List (String × J)
  | [] => []
  | (k, b, v) :: fs => optField k b v ++ objOf fs

theorem keys_objOf (fs : List (String × Bool × J)) :
    ((objOf fs).map (·.1)).Sublist (fs.map (·.1)) := by
  induction fs with
  | nil => exact List.Sublist.slnil
  | cons e fs ih =>
    obtain ⟨k, b, v⟩ := e
    cases b with
    | false => exact ih.cons k
    | true => exact ih.cons_cons k

theorem field_absent {t : List (String × String)} {fs : List (String × Bool × J)}
    (hc : ∀ k ∈ fs.map (·.1), canon t k = some k) {name : String} (h : name ∉ fs.map (·.1)) :
    field t (objOf fs) name = .null := by
  induction fs with
  | nil => rfl
  | cons e fs ih =>
    obtain ⟨k, b, v⟩ := e
    rw [List.map_cons, List.mem_cons, not_or] at h
    have hk : (some k == some name) = false := beq_eq_false_iff_ne.2 fun e => h.1 (Option.some.inj e).symm
    rw [objOf, field_opt, hc k (List.mem_cons_self ..), hk, Bool.and_false, if_neg Bool.false_ne_true]
    exact ih (fun k' hk' => hc k' (List.mem_cons_of_mem _ hk')) h.2

/-- all a parser needs of a written object; the `i`-th field is read back by position: no key is compared with
    another, distinctness of the table's names does the work -/
theorem objOf_reads {t : List (String × String)} (hg : goodTable t = true) (fs : List (String × Bool × J))
    (hs : (fs.map (·.1)).Sublist (t.map (·.1))) :
    keysOk t (objOf fs) = true ∧
    ∀ (i : Nat) {k : String} {b : Bool} {v : J}, fs[i]? = some (k, b, v) →
      field t (objOf fs) k = if b = true then v else .null := by
  refine ⟨keysOk_of_sublist hg ((keys_objOf fs).trans hs), ?_⟩
  induction fs with
  | nil => intro i _ _ _ h; cases h
  | cons e fs ih =>
    obtain ⟨k0, b0, v0⟩ := e
    obtain ⟨hc, hn⟩ := keys_of_sublist hg hs
    rw [List.map_cons, List.nodup_cons] at hn
    have hs' : (fs.map (·.1)).Sublist (t.map (·.1)) := List.sublist_of_cons_sublist hs
    intro i k b v h
    rw [objOf, field_opt, hc k0 (List.mem_cons_self ..)]
    cases i with
    | zero =>
      cases h
      cases b0 with
      | true => rw [beq_self_eq_true]; rfl
      | false =>
        rw [Bool.false_and, if_neg Bool.false_ne_true, if_neg Bool.false_ne_true]
        exact field_absent (keys_of_sublist hg hs').1 hn.1
    | succ i =>
      rw [List.getElem?_cons_succ] at h
      have hmem : k ∈ fs.map (·.1) := List.mem_map_of_mem (f := (·.1)) (List.mem_of_getElem? h)
      have hk : (some k0 == some k) = false :=
        beq_eq_false_iff_ne.2 fun e => hn.1 ((Option.some.inj e) ▸ hmem)
      rw [hk, Bool.and_false, if_neg Bool.false_ne_true]
      exact ih hs' i h

theorem good_pool : goodTable poolFields = true := by decide +kernel
theorem good_affinity : goodTable affinityFields = true := by decide +kernel
theorem good_method : goodTable methodFields = true := by decide +kernel
theorem good_api : goodTable apiFields = true := by decide +kernel

def ChannelPool.wf' (cp : ChannelPool) : Prop :=
  cp.maxSize < 2^32 ∧ cp.idleTimeout < 2^64 ∧ cp.wm < 2^32 ∧ cp.minSize < 2^32 ∧ cp.udMs < 2^32 ∧
  cp.uCalls < 2^32 ∧ -(2^31 : Int) ≤ cp.strategy ∧ cp.strategy < 2^31

def Affinity.wf (a : Affinity) : Prop := -(2^31 : Int) ≤ a.command ∧ a.command < 2^31
def Method.wf (m : Method) : Prop := ∀ a, m.affinity = some a → a.wf
def ApiConfig.wf (c : ApiConfig) : Prop :=
  (∀ cp, c.channelPool = some cp → cp.wf') ∧ ∀ m ∈ c.methods, m.wf

/-- the fields `rPool` writes -/
def poolSpec (cp : ChannelPool) : List (String × Bool × J) :=
  [("maxSize", cp.maxSize != 0, .num cp.maxSize),
   ("idleTimeout", cp.idleTimeout != 0, .str (toString cp.idleTimeout)),
   ("maxConcurrentStreamsLowWatermark", cp.wm != 0, .num cp.wm),
   ("minSize", cp.minSize != 0, .num cp.minSize),
   ("fallbackToReady", cp.fallback, .bool true),
   ("unresponsiveDetectionMs", cp.udMs != 0, .num cp.udMs),
   ("unresponsiveCalls", cp.uCalls != 0, .num cp.uCalls),
   ("bindPickStrategy", cp.strategy != 0, enumJ strategyNames cp.strategy)]

theorem parse_render_pool (cp : ChannelPool) (h : cp.wf') : pPool (rPool cp) = some (some cp) := by
  obtain ⟨h1, h2, h3, h4, h5, h6, h7, h8⟩ := h
  obtain ⟨hk, F⟩ := objOf_reads good_pool (poolSpec cp) (List.Sublist.refl _)
  have e : rPool cp = .obj (objOf (poolSpec cp)) := by
    simp only [rPool, poolSpec, objOf, List.append_assoc, List.append_nil]
  rw [e]
  unfold pPool
  simp only [hk, Bool.not_true, Bool.false_eq_true, ↓reduceIte,
    F 0 rfl, F 1 rfl, F 2 rfl, F 3 rfl, F 4 rfl, F 5 rfl, F 6 rfl, F 7 rfl,
    pUint_opt_num 32 _ h1, pUint_opt_str 64 _ h2, pUint_opt_num 32 _ h3, pUint_opt_num 32 _ h4, pBool_opt,
    pUint_opt_num 32 _ h5, pUint_opt_num 32 _ h6, pEnum_opt strategyNames_nodup _ h7 h8]
  rfl

def affSpec (a : Affinity) : List (String × Bool × J) :=
  [("command", a.command != 0, enumJ commandNames a.command), ("affinityKey", a.key != "", .str a.key)]

theorem parse_render_affinity (a : Affinity) (h : a.wf) : pAffinity (rAffinity a) = some (some a) := by
  obtain ⟨hk, F⟩ := objOf_reads good_affinity (affSpec a) (List.Sublist.refl _)
  have e : rAffinity a = .obj (objOf (affSpec a)) := by simp only [rAffinity, affSpec, objOf, List.append_nil]
  rw [e]
  unfold pAffinity
  simp only [hk, Bool.not_true, Bool.false_eq_true, ↓reduceIte,
    F 0 rfl, F 1 rfl, pEnum_opt commandNames_nodup _ h.1 h.2, pString_opt]
  rfl

theorem mapM_map_some {α β : Type} {g : α → β} {f : β → Option α} {l : List α} (h : ∀ x ∈ l, f (g x) = some x) :
    (l.map g).mapM f = some l := by
  induction l with
  | nil => rfl
  | cons x xs ih =>
    rw [List.map_cons, List.mapM_cons, h x (List.mem_cons_self ..), ih fun y hy => h y (List.mem_cons_of_mem _ hy)]
    rfl

theorem pNames_opt (l : List String) :
    pNames (if (!l.isEmpty) = true then .arr (l.map .str) else .null) = some l := by
  cases l with
  | nil => rfl
  | cons x xs =>
    simp only [List.isEmpty_cons, Bool.not_false, ↓reduceIte, pNames]
    exact mapM_map_some fun _ _ => rfl

/-- the fields `rMethod` writes; an absent affinity section is an absent field -/
def methodSpec (m : Method) : List (String × Bool × J) :=
  [("name", !m.names.isEmpty, .arr (m.names.map .str)),
   ("affinity", m.affinity.isSome, (m.affinity.map rAffinity).getD .null)]

theorem pAffinity_opt (o : Option Affinity) (h : ∀ a, o = some a → a.wf) :
    pAffinity (if o.isSome = true then (o.map rAffinity).getD .null else .null) = some o := by
  cases o with
  | none => rfl
  | some a => exact parse_render_affinity a (h a rfl)

theorem parse_render_method (m : Method) (h : m.wf) : pMethod (rMethod m) = some m := by
  obtain ⟨hk, F⟩ := objOf_reads good_method (methodSpec m) (List.Sublist.refl _)
  have e : rMethod m = .obj (objOf (methodSpec m)) := by
    simp only [rMethod, methodSpec, objOf, List.append_nil]
    cases m.affinity <;> rfl
  rw [e]
  unfold pMethod
  simp only [hk, Bool.not_true, Bool.false_eq_true, ↓reduceIte,
    F 0 rfl, F 1 rfl, pNames_opt, pAffinity_opt _ h]
  rfl

theorem pMethods_opt (ms : List Method) (h : ∀ m ∈ ms, m.wf) :
    pMethods (if (!ms.isEmpty) = true then .arr (ms.map rMethod) else .null) = some ms := by
  cases ms with
  | nil => rfl
  | cons x xs =>
    simp only [List.isEmpty_cons, Bool.not_false, ↓reduceIte, pMethods]
    exact mapM_map_some fun m hm => parse_render_method m (h m hm)

def apiSpec (c : ApiConfig) : List (String × Bool × J) :=
  [("channelPool", c.channelPool.isSome, (c.channelPool.map rPool).getD .null),
   ("method", !c.methods.isEmpty, .arr (c.methods.map rMethod))]

theorem pPool_opt (o : Option ChannelPool) (h : ∀ cp, o = some cp → cp.wf') :
    pPool (if o.isSome = true then (o.map rPool).getD .null else .null) = some o := by
  cases o with
  | none => rfl
  | some cp => exact parse_render_pool cp (h cp rfl)

/-- **C17** protojson round trip on JSON trees: for every configuration a generated message can hold —
    absent or present pool section with any field values (zeros are omitted and read back as zeros),
    any number of method entries with or without names and affinity sections, enum values inside or
    outside the declared names — parsing what `render` writes gives back exactly that configuration -/
theorem parse_render (c : ApiConfig) (h : c.wf) : parse (render c) = some c := by
  obtain ⟨hk, F⟩ := objOf_reads good_api (apiSpec c) (List.Sublist.refl _)
  have e : render c = .obj (objOf (apiSpec c)) := by
    simp only [render, apiSpec, objOf, List.append_nil]
    cases c.channelPool <;> rfl
  rw [e]
  unfold parse
  simp only [hk, Bool.not_true, Bool.false_eq_true, ↓reduceIte,
    F 0 rfl, F 1 rfl, pPool_opt _ h.1, pMethods_opt _ h.2]
  rfl

/-- the hypotheses are met by ordinary configurations -/
example : ({ channelPool := some { maxSize := 4, minSize := 1, wm := 100, fallback := true, strategy := 2 },
             methods := [{ names := ["/a/B"], affinity := some { command := 1, key := "session.name" } }, {}] } : ApiConfig).wf := by
  refine ⟨?_, ?_⟩
  · intro cp h; cases h; unfold ChannelPool.wf'; simp
  · intro m hm
    simp only [List.mem_cons, List.mem_nil_iff, or_false] at hm
    rcases hm with rfl | rfl
    · intro a ha; cases ha; unfold Affinity.wf; simp
    · intro a ha; cases ha

end GcpVerif.Config
