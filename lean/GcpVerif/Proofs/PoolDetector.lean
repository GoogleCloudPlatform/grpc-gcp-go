/-
C07 — the unresponsive-connection detector, for every state and every operation: what
`lastResp` / `deCalls` / `refreshCnt` / `refreshing` of a slot mean over the history.

The detector record of a slot is changed by exactly two kinds of events: the completion of a call
*that was placed on this slot* (`detector_done`) and the swap that concludes a refresh *of this slot*
(`detector_scs`).  Every other operation — resolver updates, state reports for any connection, picks
on any picker (also stopped and resumed ones), completions of calls on other slots, swaps of other
slots, pool growth, clock advances, the wake-ups of waiting picks — leaves it alone (`detector_quiet`
and the clauses of `detector_done`, `detector_scs` for the other slots).  This is the step-wise form
of the history-level monitor `detector_refines`.
-/
import GcpVerif.Proofs.PoolStages
namespace GcpVerif.Pool

structure Det where
  lastResp : Int
  deCalls : Nat
  refreshCnt : Nat
  refreshing : Bool
  deriving DecidableEq, Repr

def detOf (r : RefSt) : Det := ⟨r.lastResp, r.deCalls, r.refreshCnt, r.refreshing⟩

def detAt (s : St) (i : Slot) : Option Det := (s.refs[i]?).map detOf

/-- every existing slot keeps its detector record -/
def DetSame (s s' : St) : Prop := ∀ i d, detAt s i = some d → detAt s' i = some d

theorem DetSame.refl (s : St) : DetSame s s := fun _ _ h => h
theorem DetSame.trans {a b c : St} (h1 : DetSame a b) (h2 : DetSame b c) : DetSame a c :=
  fun i d h => h2 i d (h1 i d h)

theorem opScs_refs (s : St) (sc : Sc) (st : CState) (order : List Slot) :
    (opScs s sc st order).1.refs = ((scsPrologue s sc st).getD (s, [])).1.refs := by
  unfold opScs
  cases scsPrologue s sc st with
  | none => rfl
  | some p =>
    obtain ⟨s1, ev0⟩ := p
    simp only [Option.getD_some]
    cases stateOf s1 sc with
    | none => rfl
    | some oldS =>
      show (report s1 sc oldS st order).1.refs = s1.refs
      rw [report_eq, maybePublish_fst]; split <;> rfl

theorem detSame_of_append {s s' : St} {l : List Det} (h : s'.refs.map detOf = s.refs.map detOf ++ l) : DetSame s s' := by
  intro i d hd
  simp only [detAt, ← List.getElem?_map] at hd ⊢
  rw [h, List.getElem?_append_left (List.getElem?_eq_some_iff.mp hd).1]; exact hd

theorem detSame_of_eq {s s' : St} (h : s'.refs.map detOf = s.refs.map detOf) : DetSame s s' :=
  detSame_of_append (l := []) (by rw [h, List.append_nil])

theorem detAt_modify {s s' : St} {j : Slot} {f : RefSt → RefSt} (h : s'.refs = s.refs.modify j f) (g : Det → Det)
    (hf : ∀ r, detOf (f r) = g (detOf r)) {i : Slot} {d : Det} (hd : detAt s i = some d) :
    detAt s' i = some (if j = i then g d else d) := by
  simp only [detAt, h, List.getElem?_modify] at hd ⊢
  cases hr : s.refs[i]? with
  | none => rw [hr] at hd; cases hd
  | some r =>
    rw [hr] at hd; cases hd
    by_cases hji : j = i <;> simp [hji, hf]

theorem detOf_of_getRef {s : St} {i : Slot} {r : RefSt} {d : Det} (hg : getRef s i = some r) (hd : detAt s i = some d) :
    d = detOf r := by
  unfold getRef at hg; rw [detAt, hg] at hd; exact (Option.some.inj hd).symm

theorem detSame_stage {s0 s s' : St} {op : Op} (st : Stage s0 op s s') (hq : quietOp op) : DetSame s s' := by
  cases st with
  | addConn => exact detSame_of_append (l := [_]) (List.map_append ..)
  | place | ctxDone | wake => exact detSame_of_eq (map_modify_of detOf (by intro; rfl) _ _)
  | completeCall | detReset | deInc | startRefresh | bindAll | unbind | swap | record | publish => exact hq.elim
  | _ => exact detSame_of_eq rfl

/-- **C07** nothing but a completion or a state report touches any slot's detector record -/
theorem detector_quiet (s : St) (op : Op) (hq : quietOp op) : DetSame s (step s op).1 :=
  step_induct op (P := DetSame s) (fun st h => h.trans (detSame_stage st hq)) (DetSame.refl s)

theorem detSame_wake (s : St) : DetSame s (wakeWaiters s).1 :=
  wake_induct (P := DetSame s) (fun _ _ _ h => h.trans (detSame_of_eq (map_modify_of detOf (by intro; rfl) _ _)))
    (DetSame.refl s)

theorem refresh_det (s : St) (slot : Slot) : ∀ i d, detAt s i = some d →
    ∃ d', detAt (refresh s slot).1 i = some d' ∧ d'.lastResp = d.lastResp ∧ d'.deCalls = d.deCalls ∧
      d'.refreshCnt = d.refreshCnt ∧ (i ≠ slot → d' = d) ∧
      (d'.refreshing = d.refreshing ∨ (d.refreshing = false ∧ d'.refreshing = true)) := by
  intro i d hd
  rcases refresh_fst s slot with e | ⟨_, e⟩ | ⟨r, hg, hr, ha, hf⟩
  · rw [e]; exact ⟨d, hd, rfl, rfl, rfl, fun _ => rfl, Or.inl rfl⟩
  · rw [e]; exact ⟨d, hd, rfl, rfl, rfl, fun _ => rfl, Or.inl rfl⟩
  · rw [refresh_ok hg hr ha hf]
    refine ⟨_, detAt_modify (s' := s.startRefresh slot) rfl (fun d => { d with refreshing := true }) (fun _ => rfl) hd, ?_⟩
    by_cases hsi : slot = i
    · subst hsi
      rw [if_pos rfl]
      exact ⟨rfl, rfl, rfl, fun h => absurd rfl h, Or.inr ⟨by rw [detOf_of_getRef hg hd]; exact hr, rfl⟩⟩
    · rw [if_neg hsi]; exact ⟨rfl, rfl, rfl, fun _ => rfl, Or.inl rfl⟩

/-- what the completion of a call does to the detector record of the slot it was placed on -/
def detNext (c : Cfg) (now : Int) (call : Call) (isResp : Bool) (d : Det) : Det :=
  if !c.detection then d
  else if isResp then { d with lastResp := now, deCalls := 0, refreshCnt := 0 }
  else if call.started < d.lastResp then d
  else { d with deCalls := satInc d.deCalls }

/-- the rule of C07: this completion starts a refresh -/
def mustRefreshM (c : Cfg) (now : Int) (call : Call) (isResp : Bool) (d : Det) : Prop :=
  c.detection = true ∧ isResp = false ∧ ¬ call.started < d.lastResp ∧ satInc d.deCalls ≥ c.uc ∧
  d.lastResp < now - windowNs c d.refreshCnt ∧ d.refreshing = false

theorem detect_det (s : St) (c : Cfg) (call : Call) (err : ErrKind) : ∀ i d, detAt s i = some d →
    ∃ d', detAt (detectUnresponsive s c call err).1 i = some d' ∧ (i ≠ call.slot → d' = d) ∧
      (i = call.slot →
        d'.lastResp = (detNext c s.now call (isResponse s err call.dl) d).lastResp ∧
        d'.deCalls = (detNext c s.now call (isResponse s err call.dl) d).deCalls ∧
        d'.refreshCnt = (detNext c s.now call (isResponse s err call.dl) d).refreshCnt ∧
        (d'.refreshing = d.refreshing ∨
          (mustRefreshM c s.now call (isResponse s err call.dl) d ∧ d'.refreshing = true))) := by
  intro i d hd
  by_cases hdet : c.detection = false
  · rw [disabled_never_refreshes call err hdet]
    refine ⟨d, hd, fun _ => rfl, fun _ => ?_⟩
    rw [detNext, if_pos (by rw [hdet]; rfl)]; exact ⟨rfl, rfl, rfl, Or.inl rfl⟩
  have hon : ¬ (!c.detection) = true := by simpa using hdet
  have hdet : c.detection = true := by simpa using hdet
  by_cases hresp : isResponse s err call.dl = true
  · rw [response_resets call err hdet hresp]
    refine ⟨_, detAt_modify (s' := modRef s call.slot _) rfl
      (fun d => { d with lastResp := s.now, deCalls := 0, refreshCnt := 0 }) (fun _ => rfl) hd,
      fun hne => if_neg (Ne.symm hne), fun he => ?_⟩
    rw [detNext, if_neg hon, if_pos hresp, if_pos he.symm]; exact ⟨rfl, rfl, rfl, Or.inl rfl⟩
  have hresp' : isResponse s err call.dl = false := by simpa using hresp
  cases hg : getRef s call.slot with
  | none =>
    -- the slot of the call does not exist: nothing is written, and `i` is another slot
    rw [show detectUnresponsive s c call err = (s, []) by simp [detectUnresponsive, hdet, hresp', hg]]
    refine ⟨d, hd, fun _ => rfl, fun he => ?_⟩
    rw [he, detAt, ← getRef, hg] at hd; cases hd
  | some r =>
    have hdr : i = call.slot → d = detOf r := fun he => detOf_of_getRef hg (he ▸ hd)
    by_cases hstale : call.started < r.lastResp
    · rw [stale_call_ignored call err hdet hresp' hg hstale]
      refine ⟨d, hd, fun _ => rfl, fun he => ?_⟩
      rw [detNext, if_neg hon, if_neg hresp, if_pos (by rw [hdr he]; exact hstale)]; exact ⟨rfl, rfl, rfl, Or.inl rfl⟩
    -- counted; then `refresh` if the rule says so
    rw [refresh_trigger call err hdet hresp' hg hstale]
    have hinc := detAt_modify (s' := modRef s call.slot fun r => { r with deCalls := satInc r.deCalls }) rfl
      (fun d => { d with deCalls := satInc d.deCalls }) (fun _ => rfl) hd
    have hnext : i = call.slot → detNext c s.now call (isResponse s err call.dl) d = { d with deCalls := satInc d.deCalls } :=
      fun he => by rw [detNext, if_neg hon, if_neg hresp, if_neg (by rw [hdr he]; exact hstale)]
    by_cases htrig : satInc r.deCalls ≥ c.uc ∧ r.lastResp < s.now - windowNs c r.refreshCnt
    · rw [if_pos htrig]
      obtain ⟨d', e, e1, e2, e3, e4, e5⟩ := refresh_det _ call.slot i _ hinc
      refine ⟨d', e, fun hne => by rw [e4 hne, if_neg (Ne.symm hne)], fun he => ?_⟩
      rw [if_pos he.symm] at e1 e2 e3 e5
      have hd0 := hdr he
      rw [hnext he]
      exact ⟨e1, e2, e3, e5.imp id fun h => ⟨⟨hdet, hresp', hd0 ▸ hstale, hd0 ▸ htrig.1, hd0 ▸ htrig.2, h.1⟩, h.2⟩⟩
    · rw [if_neg htrig]
      refine ⟨_, hinc, fun hne => if_neg (Ne.symm hne), fun he => ?_⟩
      rw [hnext he, if_pos he.symm]; exact ⟨rfl, rfl, rfl, Or.inl rfl⟩

/-- **C07** the completion of a call changes the detector record of the slot the call was placed on,
    exactly by the rule, and of no other slot: any completion that counts as a response resets the
    record (epoch = now, no counted calls, no refreshes since); a client-side deadline-exceeded completion
    of a call started before the last response is ignored; otherwise it is counted, and a refresh is
    started only if by then `unresponsive_calls` such calls have ended, more than
    `unresponsive_detection_ms × 2^k` has passed since the last response and no refresh is in progress -/
theorem detector_done (s : St) (callId : Nat) (err : ErrKind) (reply : Msg) (call : Call) (c : Cfg)
    (hf : s.calls.find? (fun x => x.id == callId) = some call) (hc : s.cfg = some c) :
    ∀ i d, detAt s i = some d →
    ∃ d', detAt (step s (.done callId err reply)).1 i = some d' ∧ (i ≠ call.slot → d' = d) ∧
      (i = call.slot →
        d'.lastResp = (detNext c s.now call (isResponse s err call.dl) d).lastResp ∧
        d'.deCalls = (detNext c s.now call (isResponse s err call.dl) d).deCalls ∧
        d'.refreshCnt = (detNext c s.now call (isResponse s err call.dl) d).refreshCnt ∧
        (d'.refreshing = d.refreshing ∨
          (mustRefreshM c s.now call (isResponse s err call.dl) d ∧ d'.refreshing = true))) := by
  intro i d hd
  -- `completeCall` writes the stream count only and leaves the clock alone
  obtain ⟨d', e1, e2⟩ := detect_det (completeCall s call) c call err i d
    (detSame_of_eq (map_modify_of detOf (by intro; rfl) _ _) i d hd)
  refine ⟨d', ?_, e2⟩
  -- after the detector: the bindings and the wake-up pass
  rw [step_fst]
  simp only [stepCore, opDone, hf, hc]
  split
  · exact detSame_wake _ i d' e1
  · exact detSame_wake _ i d' (detSame_of_eq (applyBindings_refs_map detOf (fun _ _ => rfl) _ call reply) i d' e1)

theorem detSame_done_refused {s : St} {callId : Nat} (err : ErrKind) (reply : Msg)
    (h : s.calls.find? (fun x => x.id == callId) = none ∨ s.cfg = none) : DetSame s (step s (.done callId err reply)).1 := by
  have e : (opDone s callId err reply).1 = s := by
    unfold opDone
    rcases h with h | h
    · rw [h]
    · rw [h]; split <;> rfl
  rw [step_fst, show (stepCore s (.done callId err reply)).1 = s from e]
  exact detSame_wake s

/-- a completion that finds no such call in flight changes nothing -/
theorem detector_done_unknown (s : St) (callId : Nat) (err : ErrKind) (reply : Msg)
    (hf : s.calls.find? (fun x => x.id == callId) = none) : DetSame s (step s (.done callId err reply)).1 :=
  detSame_done_refused err reply (Or.inl hf)

/-- **C07** a state report changes a detector record only by completing a refresh: when the replacement
    connection of slot `i` is reported READY the record of `i` becomes (epoch = now, no counted calls, one
    more refresh, not refreshing); every other report — for pool connections, for replacements that are
    not READY yet, for replacements of other slots, for unknown connections — leaves every record alone -/
theorem detector_scs (s : St) (sc : Sc) (st : CState) (order : List Slot) :
    ∀ i d, detAt s i = some d →
    ∃ d', detAt (step s (.scs sc st order)).1 i = some d' ∧
      ((lookup s.refreshingMap sc = some i ∧ st = .ready) → d' = ⟨s.now, 0, d.refreshCnt + 1, false⟩) ∧
      (¬ (lookup s.refreshingMap sc = some i ∧ st = .ready) → d' = d) := by
  intro i d hd
  -- the report proper and the wake-up pass keep every record: what counts is the prologue
  have key : ∀ d', detAt ((scsPrologue s sc st).getD (s, [])).1 i = some d' →
      detAt (step s (.scs sc st order)).1 i = some d' :=
    fun d' e => by
      rw [step_fst]
      exact detSame_wake (opScs s sc st order).1 i d' (by rw [detAt, opScs_refs]; exact e)
  unfold scsPrologue at key
  cases hl : lookup s.refreshingMap sc with
  | none => rw [hl] at key; exact ⟨d, key d hd, fun h => (by cases h.1), fun _ => rfl⟩
  | some slot =>
    simp only [hl] at key
    by_cases hst : st = .ready
    · subst hst
      simp only [bne_self_eq_false, Bool.false_eq_true, ↓reduceIte, Option.getD_some] at key
      cases hg : getRef s slot with
      | none =>
        rw [swap_none hg] at key
        refine ⟨d, key d hd, fun h => ?_, fun _ => rfl⟩
        cases h.1
        rw [detAt, ← getRef, hg] at hd; cases hd
      | some r =>
        rw [swap_some hg] at key
        refine ⟨_, key _ (detAt_modify (s' := s.swapped sc slot r.subConn) rfl
          (fun d => ⟨s.now, 0, d.refreshCnt + 1, false⟩) (fun _ => rfl) hd),
          fun h => if_pos (Option.some.inj h.1), fun h => if_neg fun e => h ⟨congrArg some e, rfl⟩⟩
    · simp only [bne_iff_ne.mpr hst, ↓reduceIte, Option.getD_none] at key
      exact ⟨d, key d hd, fun h => absurd h.2 hst, fun _ => rfl⟩

end GcpVerif.Pool
