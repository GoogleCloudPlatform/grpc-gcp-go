/-
C16 at Reach level: after any sequence of accepted and rejected updates and pool notifications, as
long as the object has been constructed and not closed, every RPC — whatever name its context
carries — finds a MultiEndpoint, and the endpoint that is current for it has an open pool.
-/
import GcpVerif.Proofs.GME
import GcpVerif.Proofs.ME5
namespace GcpVerif.GME

/-- states reachable through the API (construction = the first successful update of `init`) -/
inductive Reach : St → Prop where
  | init : Reach init
  | update {s : St} (d : String) (o : Opts) (f : List String) (r : String → Bool) (dl : Int) :
      Reach s → Reach (update s d o f r dl).1
  | pstate {s : St} (e : String) (a : Bool) : Reach s → Reach (notifyAll s e a)
  | close {s : St} : Reach s → Reach (close s)

structure G (s : St) : Prop where
  meReach : ∀ p ∈ s.mes, ME.Reach p.2
  sub : s.alive = true → ∀ p ∈ s.mes, ∀ e ∈ p.2.eps, e.id ∈ s.pools
  dflt : s.alive = true → ∃ me, findME s s.defaultName = some me

theorem findME_mem {s : St} {n : String} {me : ME.St} (h : findME s n = some me) : (n, me) ∈ s.mes := by
  obtain ⟨p, hf, rfl⟩ := Option.map_eq_some_iff.mp h
  have hn : p.1 = n := by simpa using List.find?_some hf
  exact hn ▸ List.mem_of_find?_eq_some hf

theorem exists_findME {s : St} {n : String} {me : ME.St} (h : (n, me) ∈ s.mes) : ∃ me', findME s n = some me' :=
  Option.isSome_iff_exists.mp (by
    rw [findME, Option.isSome_map, List.find?_isSome]
    exact ⟨(n, me), h, beq_iff_eq.mpr rfl⟩)

theorem findME_notify (s : St) (e : String) (a : Bool) (n : String) :
    findME (notifyAll s e a) n = (findME s n).map fun me => ME.opSetAvail me e a := by
  simp only [findME, notifyAll, List.find?_map, Option.map_map, Function.comp_def]

theorem g_notify {s : St} (h : G s) (e : String) (a : Bool) : G (notifyAll s e a) := by
  -- `notifyAll` writes `mes` only: an entry of the new table is an old one after the report
  have hmem : ∀ p ∈ (notifyAll s e a).mes, ∃ q ∈ s.mes, p.2 = ME.opSetAvail q.2 e a := fun ⟨_, _⟩ hp => by
    obtain ⟨q, hq, hqp⟩ := List.mem_map.mp hp
    exact ⟨q, hq, (Prod.mk.inj hqp).2.symm⟩
  refine ⟨fun p hp => ?_, fun hal p hp x hx => ?_, fun hal => ?_⟩
  · obtain ⟨q, hq, hp2⟩ := hmem p hp
    rw [hp2]
    exact ME.reach_opSetAvail e a (h.meReach q hq)
  · obtain ⟨q, hq, hp2⟩ := hmem p hp
    obtain ⟨y, hy, hxy, -⟩ := ME.mem_of_vw_eq (ME.vw_opSetAvail q.2 e a) (hp2 ▸ hx)
    exact hxy ▸ h.sub hal q hq y hy
  · obtain ⟨me, hme⟩ := h.dflt hal
    exact ⟨_, by rw [findME_notify]; exact congrArg _ hme⟩

theorem g_foldl_notify (l : List String) (r : String → Bool) : ∀ s, G s → G (l.foldl (fun s e => notifyAll s e (r e)) s) :=
  fun _ h => List.foldlRecOn l _ h fun _ h' e _ => g_notify h' e (r e)

theorem mem_validEndpoints {opts : Opts} {n : String} {l : List String} {e : String}
    (hp : (n, some l) ∈ opts) (he : e ∈ l) : e ∈ validEndpoints opts := by
  unfold validEndpoints
  rw [List.mem_eraseDups]
  apply List.mem_flatten.mpr
  exact ⟨l, List.mem_map.mpr ⟨(n, some l), hp, rfl⟩, he⟩

theorem tellOwn_ind {P : List String → ME.St → Prop} (r : String → Bool) (l : List String)
    (hstep : ∀ done e rest me, l = done ++ e :: rest → P done me → P (done ++ [e]) (ME.opSetAvail me e (r e)))
    {me : ME.St} (h : P [] me) : P l (tellOwn r l me) := by
  suffices ∀ rest done me, l = done ++ rest → P done me → P l (tellOwn r rest me) from this l [] me rfl h
  intro rest
  induction rest with
  | nil =>
    intro done me hl h
    rw [hl, List.append_nil]
    exact h
  | cons e rest ih =>
    intro done me hl h
    show P l (tellOwn r rest (ME.opSetAvail me e (r e)))
    exact ih _ _ (by rw [hl, List.append_assoc]; rfl) (hstep done e rest me hl h)

theorem tellOwn_reach (r : String → Bool) (l : List String) (me : ME.St) (h : ME.Reach me) : ME.Reach (tellOwn r l me) :=
  tellOwn_ind (P := fun _ m => ME.Reach m) r l (fun _ e _ _ _ h => ME.reach_opSetAvail e (r e) h) h

theorem tellOwn_vw (r : String → Bool) (l : List String) (me : ME.St) : ME.vw (tellOwn r l me) = ME.vw me :=
  tellOwn_ind (P := fun _ m => ME.vw m = ME.vw me) r l (fun _ e _ m _ h => (ME.vw_opSetAvail m e (r e)).trans h) rfl

theorem configure_spec {s : St} (h : G s) (dl : Int) {p : String × Option (List String)} {l : List String}
    (hl : p.2 = some l) (hne : l ≠ []) :
    ∃ q, configure s dl p = some q ∧ q.1 = p.1 ∧ ME.Reach q.2 ∧ ∀ e ∈ q.2.eps, e.id ∈ l := by
  unfold configure
  rw [hl]
  cases hfm : findME s p.1 with
  | some me =>
    have hr := h.meReach _ (findME_mem hfm)
    exact ⟨_, rfl, rfl, ME.api_step_reach (.setEndpoints l) hr, ME.api_setEndpoints_ids_sub hr l hne⟩
  | none =>
    obtain ⟨me, hin⟩ := Option.isSome_iff_exists.mp (ME.api_init_isSome 0 dl hne)
    exact ⟨(p.1, me), by simp only [hin, Option.map_some], rfl, ME.api_init_reach hin, ME.api_init_ids_sub hin⟩

theorem new_mes_spec {s : St} (h : G s) (d : String) (dl : Int) (o : Opts) (r : String → Bool)
    (hall : ∀ x ∈ o, ∃ l, x.2 = some l ∧ l ≠ []) :
    ∀ p ∈ (updated s d o r dl).mes,
      ∃ l me0, (p.1, some l) ∈ o ∧ l ≠ [] ∧ ME.Reach me0 ∧ p.2 = tellOwn r l me0 ∧ ∀ e ∈ p.2.eps, e.id ∈ l := by
  intro p hp
  obtain ⟨x, hx, hxp⟩ := List.mem_filterMap.mp hp
  obtain ⟨l, hl, hlne⟩ := hall x hx
  obtain ⟨q, hc, hq1, hreach, hsub⟩ := configure_spec h dl hl hlne
  rw [hc] at hxp
  cases hxp
  refine ⟨l, q.2, by rw [hq1, ← hl]; exact hx, hlne, hreach, by rw [hl]; rfl, fun e he => ?_⟩
  obtain ⟨y, hy, hey, -⟩ := ME.mem_of_vw_eq (tellOwn_vw r _ q.2) he
  exact hey ▸ hsub y hy

theorem g_update {s : St} (h : G s) (d : String) (o : Opts) (f : List String) (r : String → Bool) (dl : Int) :
    G (update s d o f r dl).1 := by
  cases hok : (update s d o f r dl).2 with
  | false => rw [failed_update_is_identity s d o f r dl hok]; exact h
  | true =>
    obtain ⟨heq, ⟨pd, hpd, rfl⟩, hall⟩ := update_accepted hok
    have hmes := new_mes_spec h pd.1 dl o r hall
    rw [← heq] at hmes
    refine ⟨fun p hp => ?_, fun _ p hp x hx => ?_, fun _ => ?_⟩
    · obtain ⟨l, me0, _, _, hr, hp2, _⟩ := hmes p hp
      rw [hp2]; exact tellOwn_reach r l me0 hr
    · obtain ⟨l, _, hlo, _, _, _, hsub⟩ := hmes p hp
      exact (pools_exact_after_update s pd.1 o f r dl hok x.id).mpr (mem_validEndpoints hlo (hsub x hx))
    · -- the default name has options, hence an entry in the new table
      obtain ⟨l, hl, hne⟩ := hall pd hpd
      obtain ⟨q, hc, hq1, -⟩ := configure_spec h dl hl hne
      rw [heq]
      exact exists_findME (s := updated s pd.1 o r dl) (me := tellOwn r (pd.2.getD []) q.2)
        (List.mem_filterMap.mpr ⟨pd, hpd, by rw [hc, ← hq1]; rfl⟩)

theorem g_close {s : St} (h : G s) : G (close s) :=
  ⟨h.meReach, fun hal => by simp [close] at hal, fun hal => by simp [close] at hal⟩

theorem reach_g {s : St} (h : Reach s) : G s := by
  induction h with
  | init => exact ⟨fun p hp => by simp [init] at hp, fun hal => by simp [init] at hal, fun hal => by simp [init] at hal⟩
  | update d o f r dl _ ih => exact g_update ih d o f r dl
  | pstate e a _ ih => exact g_notify ih e a
  | close _ ih => exact g_close ih

/-- **C16** no accepted or rejected update, no pool notification, in any order, can make a later
    RPC panic or use a closed pool: while the object is constructed and not closed, every RPC —
    with a known name, an unknown name or none — is served by an open pool -/
theorem rpc_total {s : St} (h : Reach s) (hal : s.alive = true) (name : Option String) :
    ∃ e, rpc s name = some e ∧ e ∈ s.pools := by
  have g := reach_g h
  -- the MultiEndpoint of the name, or the default one
  have hme : ∃ me n, pickME s name = some me ∧ (n, me) ∈ s.mes := by
    obtain ⟨med, hmed⟩ := g.dflt hal
    cases name with
    | none => exact ⟨med, _, (pickME_no_name s).trans hmed, findME_mem hmed⟩
    | some n =>
      cases hn : findME s n with
      | some me => exact ⟨me, n, pickME_known s n me hn, findME_mem hn⟩
      | none => exact ⟨med, _, (pickME_unknown s n hn).trans hmed, findME_mem hmed⟩
  obtain ⟨me, n, hp, hmem⟩ := hme
  obtain ⟨c, hc⟩ := (ME.reach_inv (g.meReach _ hmem)).curMem
  have hcm := ME.findEp_some hc
  have hin : me.current ∈ s.pools := by
    have := g.sub hal _ hmem c hcm.1
    rw [hcm.2] at this; exact this
  refine ⟨me.current, ?_, hin⟩
  unfold rpc
  rw [hp]
  simp [hin]

end GcpVerif.GME
