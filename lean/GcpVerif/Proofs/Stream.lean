/-
C12 — theorems about the stream-interceptor model, for every interleaving of the lock-region
steps of any number of caller threads, every outcome of stream creation and cancellation at any
point.
-/
import GcpVerif.Model.Stream
namespace GcpVerif.Stream

def isWaiting : Pc → Bool
  | .waiting _ => true
  | _ => false

def owes : Pc → Bool
  | .owesBroadcast _ _ => true
  | _ => false

def isDelegating : Pc → Bool
  | .delegating _ => true
  | _ => false

structure Inv (s : St) : Prop where
  /-- at most one successful creation, and exactly then the stream exists -/
  created : s.created = if s.stream then 1 else 0
  /-- no lost wake-up: a receiver sits in cond.Wait only while there is nothing to wait for yet, or
      while somebody still owes the broadcast that will wake it -/
  wake : (∃ t, isWaiting (s.pcs t) = true) →
    (s.stream = false ∧ s.initErr = false ∧ s.ctxDone = false) ∨ (∃ t, owes (s.pcs t) = true) ∨
    (s.ctxDone = true ∧ s.watcher = .armed)
  /-- a waiter has started the context watcher -/
  armed : (∃ t, isWaiting (s.pcs t) = true) → s.cancellable = true → s.watcher ≠ .notStarted
  fired : s.watcher = .done → s.ctxDone = true
  ctxOnlyCancellable : s.ctxDone = true → s.cancellable = true
  /-- only an existing stream is ever delegated to -/
  deleg : (∃ t, isDelegating (s.pcs t) = true) → s.stream = true
  logged : s.log ≠ [] → s.stream = true
  /-- a sender whose lock region succeeded has a stream -/
  owesOk : ∀ t c, s.pcs t = .owesBroadcast c false → s.stream = true

theorem init_inv (c : Bool) : Inv (init c) := by
  constructor <;> simp [init, isWaiting, isDelegating]

theorem setPc_pcs (s : St) (t : Tid) (pc : Pc) (x : Tid) :
    (x = t ∧ (setPc s t pc).pcs x = pc) ∨ (x ≠ t ∧ (setPc s t pc).pcs x = s.pcs x) := by
  by_cases e : x = t <;> simp [setPc, e]

theorem exists_setPc {s : St} {t : Tid} {pc : Pc} {f : Pc → Bool} (h : ∃ x, f ((setPc s t pc).pcs x) = true) :
    f pc = true ∨ ∃ x, f (s.pcs x) = true := by
  obtain ⟨x, hx⟩ := h
  rcases setPc_pcs s t pc x with ⟨_, e⟩ | ⟨_, e⟩ <;> rw [e] at hx
  · exact .inl hx
  · exact .inr ⟨x, hx⟩

theorem wakeAll_no_waiting (s : St) (x : Tid) : isWaiting ((wakeAll s).pcs x) = false := by
  simp only [wakeAll]
  cases s.pcs x <;> rfl

theorem of_wakeAll {s : St} {P : Pc → Prop} (hP : ∀ c, ¬ P (.runnable c)) {x : Tid} (h : P ((wakeAll s).pcs x)) :
    P (s.pcs x) := by
  simp only [wakeAll] at h
  cases hp : s.pcs x with
  | waiting c => rw [hp] at h; exact absurd h (hP c)
  | _ => rw [hp] at h; exact h

/-- the first pass through `waitStream` starts the context watcher -/
def arm (s : St) : St := if s.watcher == .notStarted && s.cancellable then { s with watcher := .armed } else s

theorem arm_cases (s : St) : (s.watcher = .notStarted ∧ arm s = { s with watcher := .armed }) ∨
    ((s.cancellable = true → s.watcher ≠ .notStarted) ∧ arm s = s) := by
  unfold arm
  by_cases h : s.watcher = .notStarted <;> cases hc : s.cancellable <;> simp [h]

theorem arm_frame (s : St) : (arm s).initErr = s.initErr ∧ (arm s).stream = s.stream ∧
    (arm s).ctxDone = s.ctxDone ∧ (arm s).pcs = s.pcs ∧ (arm s).log = s.log := by
  rcases arm_cases s with ⟨_, e⟩ | ⟨_, e⟩ <;> rw [e] <;> exact ⟨rfl, rfl, rfl, rfl, rfl⟩

/-- the decision of `waitStream`: where the caller goes and what it returns -/
def waitOutcome (s : St) (c : Call) : Pc × Option Ret :=
  if s.initErr then (.idle, some .createErr)
  else if s.stream then (.delegating c, none)
  else if s.ctxDone then (.idle, some .ctxErr)
  else (.waiting c, some .blocked)

theorem waitOutcome_spec (s : St) (c : Call) :
    (isWaiting (waitOutcome s c).1 = true → s.stream = false ∧ s.initErr = false ∧ s.ctxDone = false) ∧
    (isDelegating (waitOutcome s c).1 = true → s.stream = true) ∧
    ∀ c' e, (waitOutcome s c).1 ≠ .owesBroadcast c' e := by
  unfold waitOutcome
  cases s.initErr <;> cases s.stream <;> cases s.ctxDone <;> simp [isWaiting, isDelegating]

theorem waitCheck_eq (s : St) (t : Tid) (c : Call) :
    waitCheck s t c = (setPc (arm s) t (waitOutcome s c).1, (waitOutcome s c).2) := by
  obtain ⟨e1, e2, e3, _⟩ := arm_frame s
  rw [waitCheck, ← arm.eq_1 s, e1, e2, e3, waitOutcome]
  cases s.initErr <;> cases s.stream <;> cases s.ctxDone <;> rfl

/-- One thread goes to another pc and nothing else changes. It may start to wait only when there is
    nothing to wait for yet and the watcher runs, it may drop a broadcast it owes only when nobody
    waits, and it may turn to the stream only when there is one. -/
theorem Inv.setPc {s : St} (h : Inv s) (t : Tid) (pc : Pc)
    (hwait : isWaiting pc = true → (s.stream = false ∧ s.initErr = false ∧ s.ctxDone = false) ∧
      (s.cancellable = true → s.watcher ≠ .notStarted))
    (howes : owes (s.pcs t) = false ∨ owes pc = true ∨ ∀ x, isWaiting (s.pcs x) = false)
    (hdeleg : isDelegating pc = true → s.stream = true)
    (hok : ∀ c, pc = .owesBroadcast c false → s.stream = true) :
    Inv (Stream.setPc s t pc) where
  created := h.created
  fired := h.fired
  ctxOnlyCancellable := h.ctxOnlyCancellable
  logged := h.logged
  wake := fun hw => by
    rcases exists_setPc hw with q | ⟨x, hx⟩
    · exact Or.inl (hwait q).1
    · rcases h.wake ⟨x, hx⟩ with q | ⟨y, hy⟩ | q
      · exact Or.inl q
      · refine Or.inr (Or.inl ?_)
        rcases setPc_pcs s t pc y with ⟨rfl, e⟩ | ⟨_, e⟩
        · rcases howes with o | o | o
          · rw [o] at hy; cases hy
          · exact ⟨y, by rw [e, o]⟩
          · rw [o x] at hx; cases hx
        · exact ⟨y, by rw [e, hy]⟩
      · exact Or.inr (Or.inr q)
  armed := fun hw => (exists_setPc hw).elim (fun q => (hwait q).2) h.armed
  deleg := fun hd => (exists_setPc hd).elim hdeleg h.deleg
  owesOk := by
    intro x c hx
    rcases setPc_pcs s t pc x with ⟨rfl, e⟩ | ⟨_, e⟩ <;> rw [e] at hx
    · exact hok c hx
    · exact h.owesOk x c hx

theorem Inv.arm {s : St} (h : Inv s) :
    Inv (arm s) ∧ ((arm s).cancellable = true → (arm s).watcher ≠ .notStarted) := by
  rcases arm_cases s with ⟨hn, e⟩ | ⟨hc, e⟩ <;> rw [e]
  · refine ⟨{ h with wake := fun hw => ?_, armed := fun _ _ => nofun, fired := nofun }, fun _ => nofun⟩
    -- the third case of `wake` had the watcher armed already
    exact (h.wake hw).imp id (.imp id fun q => by rw [hn] at q; cases q.2)
  · exact ⟨h, hc⟩

/-- after `wakeAll` nobody waits, so the watcher may be anything that respects `fired` -/
theorem Inv.wakeAll {s : St} (h : Inv s) (w : Watcher) (hw : w = .done → s.ctxDone = true) :
    Inv (wakeAll { s with watcher := w }) where
  created := h.created
  wake := fun ⟨x, hx⟩ => by rw [wakeAll_no_waiting] at hx; cases hx
  armed := fun ⟨x, hx⟩ => by rw [wakeAll_no_waiting] at hx; cases hx
  fired := hw
  ctxOnlyCancellable := h.ctxOnlyCancellable
  logged := h.logged
  deleg := fun ⟨x, hx⟩ => h.deleg ⟨x, of_wakeAll (P := fun p => isDelegating p = true) nofun hx⟩
  owesOk := fun x c hx => h.owesOk x c (of_wakeAll (P := (· = .owesBroadcast c false)) nofun hx)

/-- the lock region of SendMsg / CloseSend: whatever `initStream` does to the flags, the caller now
    owes the broadcast that covers it -/
theorem inv_initStream_owes {s : St} (h : Inv s) (t : Tid) (c : Call) (m : Option Nat) (ok : Bool) :
    Inv (setPc (initStream s m ok).1 t (.owesBroadcast c (!(initStream s m ok).2))) := by
  unfold initStream
  by_cases hs : s.stream = true
  · rw [if_pos hs]
    exact h.setPc t _ nofun (.inr (.inl rfl)) nofun fun _ _ => hs
  · have hown (s' : St) (e : Bool) : ∃ x, owes ((setPc s' t (.owesBroadcast c e)).pcs x) = true :=
      ⟨t, by simp [setPc, owes]⟩
    rw [if_neg hs]
    cases ok
    · -- a failed attempt: the flags apart, the state of a sender that reports an error
      exact { h.setPc t (.owesBroadcast c true) nofun (.inr (.inl rfl)) nofun nofun with
        wake := fun _ => .inr (.inl (hown _ _)) }
    · have h0 : s.created = 0 := by simpa [hs] using h.created
      exact { h with
        created := by show s.created + 1 = 1; rw [h0]
        wake := fun _ => .inr (.inl (hown _ _))
        armed := fun hw => h.armed ((exists_setPc hw).resolve_left nofun)
        deleg := fun _ => rfl
        logged := fun _ => rfl
        owesOk := fun _ _ _ => rfl }

theorem inv_waitCheck {s : St} (h : Inv s) (t : Tid) (c : Call) (hno : owes (s.pcs t) = false) :
    Inv (waitCheck s t c).1 := by
  obtain ⟨h1, ha⟩ := h.arm
  obtain ⟨e1, e2, e3, e4, _⟩ := arm_frame s
  obtain ⟨hw, hd, ho⟩ := waitOutcome_spec s c
  rw [waitCheck_eq]
  exact h1.setPc t _ (fun q => ⟨by rw [e1, e2, e3]; exact hw q, ha⟩) (.inl (by rw [e4, hno])) (fun q => e2 ▸ hd q)
    fun c' q => absurd q (ho c' _)

/-- a step leaves the state as it is or makes one of six moves: the lock region of SendMsg / CloseSend,
    the `waitStream` check of a caller that owes no broadcast, a broadcast, a delegation, the end of the
    context, the watcher -/
theorem step_cases {P : St → Prop} (s : St) (st : Step) (same : P s)
    (region : ∀ t c m ok, P (setPc (initStream s m ok).1 t (.owesBroadcast c (!(initStream s m ok).2))))
    (wait : ∀ t c, owes (s.pcs t) = false → P (waitCheck s t c).1)
    (bcast : ∀ t c err, s.pcs t = .owesBroadcast c err →
      P (setPc (wakeAll s) t (if err then .idle else .delegating c)))
    (deleg : ∀ t c, s.pcs t = .delegating c → P (setPc { s with log := s.log ++ [(t, c)] } t .idle))
    (cancel : s.cancellable = true → P { s with ctxDone := true })
    (fire : s.watcher = .armed → s.ctxDone = true → P (wakeAll { s with watcher := .done })) :
    P (step s st).1 := by
  cases st with
  | call t c ok =>
    simp only [step]
    by_cases hb : (pcOf s t != .idle) = true
    · rw [if_pos hb]; exact same
    · have hno : owes (s.pcs t) = false := by
        have : s.pcs t = .idle := by simpa [pcOf] using hb
        rw [this]; rfl
      rw [if_neg hb]
      cases c with
      | send m => exact region t _ (some m) ok
      | closeSend => exact region t _ none ok
      | recv => exact wait t _ hno
      | header => exact wait t _ hno
  | broadcast t =>
    rw [step]
    cases hp : pcOf s t with
    | owesBroadcast c err => cases err <;> exact bcast t c _ hp
    | _ => exact same
  | delegate t =>
    rw [step]
    cases hp : pcOf s t with
    | delegating c => exact deleg t c hp
    | _ => exact same
  | recheck t =>
    rw [step]
    cases hp : pcOf s t with
    | runnable c => exact wait t c (by rw [show s.pcs t = _ from hp]; rfl)
    | _ => exact same
  | cancel =>
    rw [step]
    by_cases hc : s.cancellable = true
    · rw [if_pos hc]; exact cancel hc
    · rw [if_neg hc]; exact same
  | watcherFire =>
    rw [step]
    by_cases hw : (s.watcher == .armed && s.ctxDone) = true
    · rw [if_pos hw]
      rw [Bool.and_eq_true, beq_iff_eq] at hw
      exact fire hw.1 hw.2
    · rw [if_neg hw]; exact same
  | trailer => exact same
  | context => exact same

theorem inv_step {s : St} (h : Inv s) (st : Step) : Inv (step s st).1 := by
  refine step_cases s st h (inv_initStream_owes h) (inv_waitCheck h) ?bcast ?deleg ?cancel ?fire
  case bcast =>
    intro t c err hpc
    -- nobody waits after the broadcast; a sender whose region succeeded has a stream (`owesOk`)
    have hw := h.wakeAll s.watcher h.fired
    have hn := wakeAll_no_waiting s
    cases err
    · exact hw.setPc t _ nofun (.inr (.inr hn)) (fun _ => h.owesOk t c hpc) nofun
    · exact hw.setPc t _ nofun (.inr (.inr hn)) nofun nofun
  case deleg =>
    intro t c hpc
    have hs : s.stream = true := h.deleg ⟨t, by rw [hpc]; rfl⟩
    have hl : Inv { s with log := s.log ++ [(t, c)] } := { h with logged := fun _ => hs }
    exact hl.setPc t _ nofun (.inl (by rw [hpc]; rfl)) nofun nofun
  case cancel =>
    intro hc
    refine { h with wake := fun hw => ?_, fired := fun _ => rfl, ctxOnlyCancellable := fun _ => hc }
    -- a waiter has started the watcher, and it has not fired while the context was live
    rcases h.wake hw with q | q | q
    · refine .inr (.inr ⟨rfl, ?_⟩)
      cases hwt : s.watcher with
      | notStarted => exact absurd hwt (h.armed hw hc)
      | armed => rfl
      | done => rw [h.fired hwt] at q; cases q.2.2
    · exact .inr (.inl q)
    · exact .inr (.inr ⟨rfl, q.2⟩)
  case fire => exact fun _ hd => h.wakeAll .done fun _ => hd

theorem run_inv (c : Bool) (steps : List Step) : Inv (run (init c) steps) :=
  List.foldlRecOn steps _ (init_inv c) fun _ h st _ => inv_step h st

/-- **C12** the underlying stream is created at most once: over every interleaving, however many
    creation attempts failed before, there is never a second successful creation -/
theorem create_at_most_once (c : Bool) (steps : List Step) : (run (init c) steps).created ≤ 1 := by
  have := (run_inv c steps).created
  split at this <;> omega

/-- **C12** no lost wake-up / receive progress: in a state where no sender is between Unlock and
    Broadcast and the context watcher is not pending, a receiver is blocked only if the stream
    does not exist yet, creation has not failed and the context has not ended. So once a SendMsg has
    returned, or the context has ended and its watcher ran, no RecvMsg / Header stays blocked. -/
theorem recv_progress (c : Bool) (steps : List Step)
    (hquiet : ¬ ∃ t, owes ((run (init c) steps).pcs t) = true)
    (hwatch : ¬ ((run (init c) steps).ctxDone = true ∧ (run (init c) steps).watcher = .armed))
    (hblocked : ∃ t, isWaiting ((run (init c) steps).pcs t) = true) :
    (run (init c) steps).stream = false ∧ (run (init c) steps).initErr = false ∧
    (run (init c) steps).ctxDone = false := by
  rcases (run_inv c steps).wake hblocked with h | h | h
  · exact h
  · exact absurd h hquiet
  · exact absurd h hwatch

/-- **C12** every call that reaches the underlying stream does so after it exists -/
theorem delegation_after_creation (c : Bool) (steps : List Step) (h : (run (init c) steps).log ≠ []) :
    (run (init c) steps).stream = true := (run_inv c steps).logged h

theorem step_send {s : St} {t : Tid} (hidle : pcOf s t = .idle) (m : Nat) (ok : Bool) :
    step s (.call t (.send m) ok) =
      (setPc (initStream s (some m) ok).1 t (.owesBroadcast (.send m) (!(initStream s (some m) ok).2)), none) := by
  simp only [step, hidle, bne_self_eq_false, Bool.false_eq_true, ↓reduceIte]

theorem step_recv {s : St} {t : Tid} (hidle : pcOf s t = .idle) {c : Call} (hc : c = .recv ∨ c = .header)
    (ok : Bool) : step s (.call t c ok) = waitCheck s t c := by
  rcases hc with rfl | rfl <;> simp only [step, hidle, bne_self_eq_false, Bool.false_eq_true, ↓reduceIte]

/-- **C12** the first message is visible to the picker: a creation attempt made by SendMsg carries
    exactly the message being sent -/
theorem first_message_visible (s : St) (t : Tid) (m : Nat) (ok : Bool) (hidle : pcOf s t = .idle)
    (hnew : s.stream = false) :
    (step s (.call t (.send m) ok)).1.attempts = s.attempts ++ [some m] := by
  rw [step_send hidle]
  show (initStream s (some m) ok).1.attempts = _
  rw [initStream, hnew]
  cases ok <;> rfl

/-- once the stream exists, SendMsg makes no further attempt -/
theorem no_second_attempt (s : St) (t : Tid) (m : Nat) (ok : Bool) (hidle : pcOf s t = .idle)
    (hex : s.stream = true) : (step s (.call t (.send m) ok)).1.attempts = s.attempts := by
  rw [step_send hidle]
  show (initStream s (some m) ok).1.attempts = _
  rw [initStream, hex]
  rfl

/-- a `RecvMsg` that finds the creation error or an ended context returns one of the two errors: it does not block -/
theorem recv_returns (s : St) (t : Tid) (hidle : pcOf s t = .idle)
    (h : s.initErr = true ∨ (s.stream = false ∧ s.ctxDone = true)) :
    (step s (.call t .recv true)).2 = some .createErr ∨ (step s (.call t .recv true)).2 = some .ctxErr := by
  rw [step_recv hidle (.inl rfl), waitCheck_eq, waitOutcome]
  cases he : s.initErr
  · obtain ⟨h1, h2⟩ := h.resolve_left (by rw [he]; nofun)
    rw [h1, h2]; exact .inr rfl
  · exact .inl rfl

/-- non-vacuity (test, by evaluation): receiver first, then a failing send, then a good send -/
example :
    let s := run (init true) [.call 1 .recv true, .call 0 (.send 7) false, .broadcast 0, .recheck 1,
                              .call 0 (.send 8) true, .broadcast 0, .delegate 0]
    s.created = 1 ∧ s.attempts = [some 7, some 8] ∧ s.log = [(0, .send 8)] := by decide

/-! ### once created, always delegated (after fix F21) -/

/-- a creation error is never left standing next to an existing stream -/
def NoStale (s : St) : Prop := s.stream = true → s.initErr = false

theorem noStale_initStream {s : St} (h : NoStale s) (m : Option Nat) (ok : Bool) : NoStale (initStream s m ok).1 := by
  unfold initStream
  by_cases hs : s.stream = true
  · rw [if_pos hs]; exact h
  · rw [if_neg hs]; cases ok
    · exact fun h' => absurd h' hs
    · exact fun _ => rfl

/-- only the lock region of SendMsg / CloseSend touches the two flags -/
theorem noStale_step {s : St} (h : NoStale s) (st : Step) : NoStale (step s st).1 :=
  step_cases s st h (fun _ _ m ok => noStale_initStream h m ok)
    (fun t c _ => by
      rw [waitCheck_eq]
      show (arm s).stream = true → (arm s).initErr = false
      rw [(arm_frame s).1, (arm_frame s).2.1]
      exact h)
    (fun _ _ _ _ => h) (fun _ _ _ => h) (fun _ => h) (fun _ _ => h)

theorem noStale_run (c : Bool) (steps : List Step) : NoStale (run (init c) steps) :=
  List.foldlRecOn steps _ nofun fun _ h st _ => noStale_step h st

/-- **C12** once the underlying stream exists — also when an earlier creation attempt had failed and
    also after the call's context has ended — a RecvMsg / Header entered by an idle thread does not
    wait and does not answer in the stream's place: its next step delegates the call to the stream -/
theorem recv_after_creation_delegates (c : Bool) (steps : List Step) (t : Tid) (call : Call)
    (hcall : call = .recv ∨ call = .header) (ok : Bool)
    (hs : (run (init c) steps).stream = true) (hidle : pcOf (run (init c) steps) t = .idle) :
    (step (run (init c) steps) (.call t call ok)).2 = none ∧
    (step (step (run (init c) steps) (.call t call ok)).1 (.delegate t)).2 = some (.delegated call) := by
  have hn := noStale_run c steps hs
  generalize run (init c) steps = s at hs hidle hn
  have e : waitOutcome s call = (.delegating call, none) := by rw [waitOutcome, hn, hs]; rfl
  rw [step_recv hidle hcall, waitCheck_eq, e]
  refine ⟨rfl, ?_⟩
  simp only [step, pcOf, setPc, ↓reduceIte]

end GcpVerif.Stream
