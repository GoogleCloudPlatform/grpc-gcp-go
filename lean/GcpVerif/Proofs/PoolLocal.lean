/-
Pool model: theorems about the decision logic of single calls, for every state (no reachability
hypothesis needed).  C01 / C02 / C03 / C07 / C08 / C09 / C20 clauses that are statements about one pick,
one completion or one callback; and for each branching function of the model one lemma that lists its cases
(`getLeastBusy_cases`, `getReadySubConnRef_cases`, `detect_cases`).
-/
import GcpVerif.Proofs.AList
import GcpVerif.Spec.Pool
namespace GcpVerif.Pool

/-! ### C02: least-loaded placement -/

theorem leastBusy_eq_none {s : St} {l : List Slot} : leastBusy s l = none ↔ l = [] := by
  cases l with
  | nil => exact ⟨fun _ => rfl, fun _ => rfl⟩
  | cons x xs =>
    refine ⟨fun h => ?_, nofun⟩
    unfold leastBusy at h
    cases hxs : leastBusy s xs <;> rw [hxs] at h
    · cases h
    · dsimp only at h
      rw [← apply_ite some] at h
      cases h

/-- C02.2 the slot chosen by the scan is in the ready list of the picker used and no slot of that
    list has fewer active streams -/
theorem leastBusy_spec {s : St} {l : List Slot} {m : Slot} (h : leastBusy s l = some m) :
    m ∈ l ∧ ∀ j ∈ l, streamsOf s m ≤ streamsOf s j := by
  induction l generalizing m with
  | nil => cases h
  | cons x xs ih =>
    unfold leastBusy at h
    cases hxs : leastBusy s xs with
    | none =>
      rw [hxs] at h
      obtain rfl := Option.some.inj h
      rw [leastBusy_eq_none.mp hxs]
      exact ⟨List.mem_singleton.mpr rfl, fun j hj => List.mem_singleton.mp hj ▸ Int.le_refl _⟩
    | some y =>
      rw [hxs] at h
      obtain ⟨hy, hle⟩ := ih hxs
      by_cases hlt : streamsOf s y < streamsOf s x
      · obtain rfl := Option.some.inj ((if_pos hlt).symm.trans h)
        exact ⟨List.mem_cons_of_mem _ hy, List.forall_mem_cons.mpr ⟨Int.le_of_lt hlt, hle⟩⟩
      · obtain rfl := Option.some.inj ((if_neg hlt).symm.trans h)
        exact ⟨List.mem_cons_self, List.forall_mem_cons.mpr
          ⟨Int.le_refl _, fun j hj => Int.le_trans (Int.not_lt.mp hlt) (hle j hj)⟩⟩

/-- ties go to the first slot in the picker's order (the model is deterministic given that order) -/
theorem leastBusy_first_on_tie {s : St} {x : Slot} {xs : List Slot} {y : Slot}
    (h : leastBusy s xs = some y) (htie : streamsOf s y = streamsOf s x) :
    leastBusy s (x :: xs) = some x := by
  unfold leastBusy
  rw [h]
  exact if_neg (htie ▸ Int.lt_irrefl _)

/-! ### C03: growth only when saturated; at maxSize calls are placed anyway -/

theorem newSubConn_quiet {s : St}
    (h : (s.scStates.any (fun p => p.2 == .connecting || p.2 == .idle) || readyBelowWm s) = true) :
    newSubConn s = (s, []) :=
  if_pos h

theorem all_ready_saturated {s : St} {c : Cfg} (hc : s.cfg = some c) (h : readyBelowWm s = false) :
    ∀ r ∈ s.refs, lookup s.scStates r.subConn = some .ready → (c.wm : Int) ≤ r.streamsCnt := by
  intro r hr hst
  unfold readyBelowWm at h
  rw [hc] at h
  have := List.any_eq_false.mp h r hr
  rw [hst, beq_self_eq_true, Bool.true_and, decide_eq_true_eq] at this
  exact Int.not_lt.mp this

theorem room_iff (c : Cfg) (s : St) :
    (c.max == 0 || decide (s.scRefs.length < c.max)) = true ↔ c.max = 0 ∨ s.scRefs.length < c.max := by
  rw [Bool.or_eq_true, beq_iff_eq, decide_eq_true_eq]

/-- below the watermark the call is simply placed on the least-loaded slot -/
theorem below_watermark_places {s : St} {c : Cfg} {l : List Slot} {m : Slot}
    (hm : leastBusy s l = some m) (hwm : streamsOf s m < c.wm) :
    getLeastBusy s c l = (s, some m, []) := by
  unfold getLeastBusy
  rw [hm]
  exact if_pos hwm

/-- C03.3 at maxSize (no capacity left) the call is placed on the least-loaded slot even above the
    watermark, and nothing is created -/
theorem at_max_places_anyway {s : St} {c : Cfg} {l : List Slot} {m : Slot}
    (hm : leastBusy s l = some m) (hmax : c.max ≠ 0) (hfull : c.max ≤ s.scRefs.length) :
    getLeastBusy s c l = (s, some m, []) := by
  by_cases hwm : streamsOf s m < c.wm
  · exact below_watermark_places hm hwm
  · unfold getLeastBusy
    rw [hm]
    exact (if_neg hwm).trans (if_neg fun h => ((room_iff c s).mp h).elim hmax (Nat.not_lt.mpr hfull))

theorem above_watermark_grows {s : St} {c : Cfg} {l : List Slot} {m : Slot}
    (hm : leastBusy s l = some m) (hwm : ¬ streamsOf s m < c.wm) (hroom : c.max = 0 ∨ s.scRefs.length < c.max) :
    getLeastBusy s c l = ((newSubConn s).1, none, (newSubConn s).2) := by
  unfold getLeastBusy
  rw [hm]
  exact (if_neg hwm).trans (if_pos ((room_iff c s).mpr hroom))

theorem getLeastBusy_cases (s : St) (c : Cfg) (l : List Slot) :
    getLeastBusy s c l = (s, leastBusy s l, []) ∨
    ∃ m, leastBusy s l = some m ∧ ¬ streamsOf s m < c.wm ∧ (c.max = 0 ∨ s.scRefs.length < c.max) ∧
      getLeastBusy s c l = ((newSubConn s).1, none, (newSubConn s).2) := by
  cases hm : leastBusy s l with
  | none => left; unfold getLeastBusy; rw [hm]
  | some m =>
    by_cases hwm : streamsOf s m < c.wm
    · exact .inl (below_watermark_places hm hwm)
    · by_cases hroom : c.max = 0 ∨ s.scRefs.length < c.max
      · exact .inr ⟨m, rfl, hwm, hroom, above_watermark_grows hm hwm hroom⟩
      · exact .inl (at_max_places_anyway hm (fun h0 => hroom (.inl h0)) (Nat.not_lt.mp fun hl => hroom (.inr hl)))

/-- C03.2 the plain-pick path adds a connection only if every READY channel of the pool (F37) and every slot
    of its ready list is at or above the watermark, the pool is below maxSize and no connection is idle or
    connecting; and then the call is told to wait -/
theorem growth_only_when_saturated {s s' : St} {c : Cfg} {l : List Slot} {r : Option Slot} {ev : List Event}
    (h : getLeastBusy s c l = (s', r, ev)) (hev : ev ≠ []) :
    r = none ∧ (∀ j ∈ l, (c.wm : Int) ≤ streamsOf s j) ∧ (c.max = 0 ∨ s.scRefs.length < c.max) ∧
    s.scStates.any (fun p => p.2 == .connecting || p.2 == .idle) = false ∧ readyBelowWm s = false := by
  rcases getLeastBusy_cases s c l with e | ⟨m, hm, hwm, hroom, e⟩ <;> rw [e] at h <;> cases h
  · exact absurd rfl hev
  · cases hq : s.scStates.any (fun p => p.2 == .connecting || p.2 == .idle) || readyBelowWm s
    · exact ⟨rfl, fun j hj => Int.le_trans (Int.not_lt.mp hwm) ((leastBusy_spec hm).2 j hj), hroom,
        Bool.or_eq_false_iff.mp hq⟩
    · rw [newSubConn_quiet hq] at hev
      exact absurd rfl hev

/-! ### C01 / C08: keyed lookups -/

/-- C01.2 a bound key whose channel is READY resolves to that channel's slot; nothing changes -/
theorem bound_ready_home {s : St} {c : Cfg} {key : String} {sc : Sc}
    (hb : lookup s.affinity key = some sc) (hr : isReadySc s sc = true) :
    getReadySubConnRef s c key = (s, lookup s.scRefs sc, true) := by
  simp [getReadySubConnRef, hb, hr]

/-- C01.4 fallback disabled and the channel not READY: no slot — the call is told to wait, and it
    is "known" (the picker does not fall through to the least-loaded channel) -/
theorem bound_notready_no_fallback {s : St} {c : Cfg} {key : String} {sc : Sc}
    (hb : lookup s.affinity key = some sc) (hr : isReadySc s sc = false) (hfb : c.fb = false) :
    getReadySubConnRef s c key = (s, none, true) := by
  simp [getReadySubConnRef, hb, hr, hfb]

/-- an unknown key is reported as unknown (the caller then uses the least-loaded path) -/
theorem unknown_key {s : St} {c : Cfg} {key : String} (hb : lookup s.affinity key = none) :
    getReadySubConnRef s c key = (s, none, false) := by
  simp [getReadySubConnRef, hb]

/-- C08.2 an existing stand-in is reused -/
theorem fallback_sticky {s : St} {c : Cfg} {key : String} {sc sc' : Sc}
    (hb : lookup s.affinity key = some sc) (hr : isReadySc s sc = false) (hfb : c.fb = true)
    (hf : lookup s.fallback key = some sc') :
    getReadySubConnRef s c key = (s, lookup s.scRefs sc', true) := by
  simp [getReadySubConnRef, hb, hr, hfb, hf]

/-- C08.1 with no stand-in yet, the least-loaded READY slot of the current picker is taken —
    whatever the stream counts are (no watermark, no growth) — and remembered -/
theorem fallback_new {s : St} {c : Cfg} {key : String} {sc : Sc} {l : List Slot} {slot : Slot} {r : RefSt}
    (hb : lookup s.affinity key = some sc) (hr : isReadySc s sc = false) (hfb : c.fb = true)
    (hf : lookup s.fallback key = none) (hp : s.picker = .gcp l) (hl : leastBusy s l = some slot)
    (hg : getRef s slot = some r) :
    getReadySubConnRef s c key = ({ s with fallback := insert s.fallback key r.subConn }, some slot, true) := by
  simp [getReadySubConnRef, hb, hr, hfb, hf, hp, hl, hg]

theorem getReadySubConnRef_cases (s : St) (c : Cfg) (key : String) :
    (∃ o b, getReadySubConnRef s c key = (s, o, b) ∧ (o = none ∨ ∃ sc, o = lookup s.scRefs sc)) ∨
    ∃ sc l slot r, c.fb = true ∧ lookup s.affinity key = some sc ∧ isReadySc s sc = false ∧
      lookup s.fallback key = none ∧ s.picker = .gcp l ∧ leastBusy s l = some slot ∧ getRef s slot = some r ∧
      getReadySubConnRef s c key = ({ s with fallback := insert s.fallback key r.subConn }, some slot, true) := by
  cases hb : lookup s.affinity key with
  | none => exact .inl ⟨_, _, unknown_key hb, .inl rfl⟩
  | some sc =>
    cases hr : isReadySc s sc with
    | true => exact .inl ⟨_, _, bound_ready_home hb hr, .inr ⟨sc, rfl⟩⟩
    | false =>
      cases hfb : c.fb with
      | false => exact .inl ⟨_, _, bound_notready_no_fallback hb hr hfb, .inl rfl⟩
      | true =>
        cases hf : lookup s.fallback key with
        | some sc' => exact .inl ⟨_, _, fallback_sticky hb hr hfb hf, .inr ⟨sc', rfl⟩⟩
        | none =>
          cases hp : s.picker with
          | gcp l =>
            cases hl : leastBusy s l with
            | none => exact .inl ⟨none, true, by simp [getReadySubConnRef, hb, hr, hfb, hf, hp, hl], .inl rfl⟩
            | some slot =>
              cases hg : getRef s slot with
              | none => exact .inl ⟨none, true, by simp [getReadySubConnRef, hb, hr, hfb, hf, hp, hl, hg], .inl rfl⟩
              | some r =>
                -- (`cases hp` has put `.gcp l` for `s.picker` inside the record too)
                exact .inr ⟨sc, l, slot, r, rfl, rfl, hr, rfl, rfl, hl, hg, hp ▸ fallback_new hb hr hfb hf hp hl hg⟩
          | _ => exact .inl ⟨none, true, by simp [getReadySubConnRef, hb, hr, hfb, hf, hp], .inl rfl⟩

/-- C08.4 the keyed lookup never changes which channel a key is bound to -/
theorem lookup_preserves_binding (s : St) (c : Cfg) (key : String) :
    (getReadySubConnRef s c key).1.affinity = s.affinity := by
  rcases getReadySubConnRef_cases s c key with ⟨_, _, e, _⟩ | ⟨_, _, _, _, _, _, _, _, _, _, _, e⟩ <;> rw [e]

theorem bound_pick_placed {s : St} {c : Cfg} (hc : s.cfg = some c) (hm : c.methods = true)
    (call pn : Nat) (dl : Option Int) (key : String) (ks : List String) (hk : key ≠ "")
    (hfree : (callIdUsed s call || pickerBusy s pn) = false)
    {st : CState} {l : List Slot} (hp : s.published[pn]? = some (st, .gcp l)) (hl : l ≠ [])
    {s1 : St} {slot : Slot} {r : RefSt} (hgr : getReadySubConnRef s c key = (s1, some slot, true))
    (hg : getRef s1 slot = some r) :
    (opPick s call pn "bound" .gcp dl (.msg ⟨key, ks⟩)).2 = [.placed r.subConn] := by
  have hne : l.isEmpty = false := by cases l with | nil => exact absurd rfl hl | cons _ _ => rfl
  have hrc : resolveCall c "bound" .gcp (.msg ⟨key, ks⟩) = (.bound, .key, some key) := by
    simp [resolveCall, methodCfg, hm, extract]
  have hkb : (key != "") = true := bne_iff_ne.mpr hk
  simp only [opPick, hfree, Bool.false_eq_true, ↓reduceIte, hp, hc, hne, hrc, chooseSlot, hkb, hgr, finishPick,
    place, hg]
  rfl

theorem bumpAffinity_affinity (s : St) (sc : Sc) (d : Int) : (bumpAffinity s sc d).affinity = s.affinity := by
  unfold bumpAffinity
  split <;> rfl

theorem bindSubConn_affinity (s : St) (k : String) (sc : Sc) :
    (bindSubConn s k sc).affinity = if lookup s.affinity k = none then s.affinity ++ [(k, sc)] else s.affinity := by
  unfold bindSubConn
  rw [bumpAffinity_affinity]
  unfold addBinding
  cases lookup s.affinity k <;> rfl

/-- C01: a BIND for an already-bound key does not move it -/
theorem bind_bound_key_noop {s : St} {key : String} {sc sc0 : Sc}
    (hb : lookup s.affinity key = some sc0) : (bindSubConn s key sc).affinity = s.affinity := by
  rw [bindSubConn_affinity, hb]
  rfl

/-- C01: a first BIND binds the key to the connection of the call's slot -/
theorem bind_new_key {s : St} {key : String} {sc : Sc}
    (hb : lookup s.affinity key = none) : (bindSubConn s key sc).affinity = s.affinity ++ [(key, sc)] := by
  rw [bindSubConn_affinity, if_pos hb]

theorem unbindSubConn_affinity (s : St) (key : String) : (unbindSubConn s key).affinity = erase s.affinity key := by
  unfold unbindSubConn
  cases h : lookup s.affinity key with
  | none => exact (erase_of_not_mem (lookup_eq_none.mp h)).symm
  | some sc => exact congrArg (erase · key) (bumpAffinity_affinity s sc (-1))

/-- C01: after UNBIND the key is unknown again -/
theorem unbind_removes (s : St) (key : String) : lookup (unbindSubConn s key).affinity key = none := by
  rw [unbindSubConn_affinity]
  exact lookup_erase_self _ _

/-- UNBIND leaves every other key alone -/
theorem unbind_other (s : St) {key key' : String} (hne : key ≠ key') :
    lookup (unbindSubConn s key).affinity key' = lookup s.affinity key' := by
  rw [unbindSubConn_affinity]
  exact lookup_erase_ne _ hne

/-! ### C07: the detector -/

/-- C07.3 with detection disabled nothing ever happens on completion -/
theorem disabled_never_refreshes {s : St} {c : Cfg} (call : Call) (err : ErrKind)
    (h : c.detection = false) : detectUnresponsive s c call err = (s, []) := by
  simp [detectUnresponsive, h]

/-- C07.3 any completion that is not a client-side deadline error counts as a response:
    lastResp := now, counters reset, no refresh -/
theorem response_resets {s : St} {c : Cfg} (call : Call) (err : ErrKind)
    (hd : c.detection = true) (hr : isResponse s err call.dl = true) :
    detectUnresponsive s c call err =
      (modRef s call.slot fun r => { r with lastResp := s.now, deCalls := 0, refreshCnt := 0 }, []) := by
  simp [detectUnresponsive, hd, hr]

/-- what counts as a response: everything except DEADLINE_EXCEEDED with the client-side message on
    a context whose deadline has passed -/
theorem isResponse_iff (s : St) (err : ErrKind) (dl : Option Int) :
    isResponse s err dl = false ↔ err = .deClient ∧ ∃ d, dl = some d ∧ d ≤ s.now := by
  unfold isResponse
  split
  · rw [decide_eq_false_iff_not, Int.not_lt]
    exact ⟨fun h => ⟨rfl, _, rfl, h⟩, fun ⟨_, _, e, h⟩ => Option.some.inj e ▸ h⟩
  · next hne => exact ⟨nofun, fun ⟨he, d, hd, _⟩ => (hne d he hd).elim⟩

/-- a call that started before the channel's last response is ignored -/
theorem stale_call_ignored {s : St} {c : Cfg} (call : Call) (err : ErrKind) {r : RefSt}
    (hd : c.detection = true) (hr : isResponse s err call.dl = false)
    (hg : getRef s call.slot = some r) (hst : call.started < r.lastResp) :
    detectUnresponsive s c call err = (s, []) := by
  simp [detectUnresponsive, hd, hr, hg, hst]

/-- C07.2 the trigger: a qualifying completion starts `refresh` exactly when, counting this one, at
    least `uc` such calls ended since the last response and more than the window `windowNs` (64-bit, saturating)
    passed -/
theorem refresh_trigger {s : St} {c : Cfg} (call : Call) (err : ErrKind) {r : RefSt}
    (hd : c.detection = true) (hr : isResponse s err call.dl = false)
    (hg : getRef s call.slot = some r) (hst : ¬ call.started < r.lastResp) :
    detectUnresponsive s c call err =
      if satInc r.deCalls ≥ c.uc ∧ r.lastResp < s.now - windowNs c r.refreshCnt
      then refresh (modRef s call.slot fun r => { r with deCalls := satInc r.deCalls }) call.slot
      else (modRef s call.slot fun r => { r with deCalls := satInc r.deCalls }, []) := by
  unfold detectUnresponsive
  rw [hd, hr, hg]
  -- the model tests the same two conditions as Booleans; `modRef` leaves the clock alone
  exact (if_neg hst).trans
    (ite_congr (by rw [Bool.and_eq_true, decide_eq_true_eq, decide_eq_true_eq]; rfl) (fun _ => rfl) (fun _ => rfl))

theorem detect_cases (s : St) (c : Cfg) (call : Call) (err : ErrKind) :
    detectUnresponsive s c call err = (s, []) ∨
    detectUnresponsive s c call err =
      (modRef s call.slot fun r => { r with lastResp := s.now, deCalls := 0, refreshCnt := 0 }, []) ∨
    detectUnresponsive s c call err = (modRef s call.slot fun r => { r with deCalls := satInc r.deCalls }, []) ∨
    detectUnresponsive s c call err =
      refresh (modRef s call.slot fun r => { r with deCalls := satInc r.deCalls }) call.slot := by
  cases hd : c.detection with
  | false => exact .inl (disabled_never_refreshes call err hd)
  | true =>
    cases hr : isResponse s err call.dl with
    | true => exact .inr (.inl (response_resets call err hd hr))
    | false =>
      cases hg : getRef s call.slot with
      | none => left; simp only [detectUnresponsive, hd, hr, hg]; rfl
      | some r =>
        by_cases hl : call.started < r.lastResp
        · exact .inl (stale_call_ignored call err hd hr hg hl)
        · rw [refresh_trigger call err hd hr hg hl]
          split
          · exact .inr (.inr (.inr rfl))
          · exact .inr (.inr (.inl rfl))

/-- the counter counts, as long as it fits: below the largest uint32 value `satInc` is `+ 1`, and at that
    value the trigger condition `≥ unresponsive_calls` (a uint32) holds anyway (F38: the counter used to
    wrap to 0 there, and the refresh that was due did not happen) -/
theorem satInc_counts (n : Nat) : (n < 4294967295 → satInc n = n + 1) ∧ (n ≤ satInc n) ∧
    (∀ uc, uc ≤ 4294967295 → 4294967295 ≤ n → uc ≤ satInc n) := by
  unfold satInc
  by_cases h : n < 4294967295
  · rw [if_pos h]
    exact ⟨fun _ => rfl, Nat.le_succ n, fun _ _ h2 => absurd h (Nat.not_lt.mpr h2)⟩
  · rw [if_neg h]
    exact ⟨fun h' => absurd h' h, Nat.le_refl n, fun _ h1 h2 => Nat.le_trans h1 h2⟩

/-- the window doubles with every refresh since the last response as long as it fits in time.Duration; beyond
    that range it saturates and never wraps around (`window_monotone_or_saturated`) -/
theorem window_exponential (c : Cfg) (k : Nat) (hk : k < 63) (h : c.ums ≤ ((2^63 - 1) / 1000000) / 2 ^ k) :
    windowNs c k = ((c.ums * 2 ^ k : Nat) : Int) * 1000000 := by
  unfold windowNs
  refine if_neg fun hc => ?_
  rw [Bool.or_eq_true, decide_eq_true_eq, decide_eq_true_eq] at hc
  exact hc.elim (Nat.not_le.mpr hk) (Nat.not_lt.mpr h)

theorem window_monotone_or_saturated (c : Cfg) (k : Nat) :
    windowNs c k = 2^63 - 1 ∨ windowNs c k = ((c.ums * 2 ^ k : Nat) : Int) * 1000000 := by
  unfold windowNs
  exact (Bool.eq_false_or_eq_true _).elim (fun h => .inl (if_pos h)) fun h => .inr (if_neg (Bool.eq_false_iff.mp h))

/-- `refresh` when a refresh of the slot is already in progress: no second replacement -/
theorem refresh_once {s : St} {slot : Slot} {r : RefSt} (hg : getRef s slot = some r)
    (hr : r.refreshing = true) : refresh s slot = (s, []) := by
  simp [refresh, hg, hr]

/-! ### C09: round-robin assignment -/

/-- the slot of the j-th BIND pick depends only on j and the number of slots -/
theorem rrSlot_succ (j n : Nat) :
    rrSlot (j + 1) n = ((2^64 - 1 + j + 1) % 2^64) % n := rfl

/-- successive BIND picks walk the slots cyclically while the cursor does not wrap -/
theorem rr_next_slot (rr n : Nat) (hn : 0 < n) (hw : rr + 1 < 2 ^ 64) :
    ((rr + 1) % 2 ^ 64) % n = (rr % n + 1) % n := by
  rw [Nat.mod_eq_of_lt hw, Nat.mod_add_mod]

/-- C20: a resolver error changes nothing -/
theorem resolver_error_identity (s : St) : stepCore s .reserr = (s, [.res "ok"]) := rfl

end GcpVerif.Pool
