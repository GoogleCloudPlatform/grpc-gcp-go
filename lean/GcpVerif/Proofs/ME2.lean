/-
Where `current` goes: C13.3, C13.5, C14.3.

`J`: whenever `future` names an available endpoint, either it is the highest-priority available
endpoint, or the guard of the delayed-switch closure blocks (the current endpoint is still usable
and outranks it).  `maybeUpdateCurrent` establishes `J` on every table with distinct ids and
priorities (`Base`), the timer closure keeps it.

Stability (`reach_stable`): in every reachable state `current` is a fixed point of the decision table.
With both, `current_after` says what any step does to `current`: it is what the table says about the
old `current` and the new table; for the delayed switch, which under `J` goes to the top available
endpoint and only past its guard, that is the table without delay (`nextCur_guard`).
-/
import GcpVerif.Proofs.MEStep
namespace GcpVerif.ME

def J (s : St) : Prop :=
  ∀ e, findEp s.eps s.future = some e → e.status = .available →
    topAvail s.eps = some e ∨
    ∃ c, findEp s.eps s.current = some c ∧ c.status ≠ .unavailable ∧ c.prio < e.prio

theorem J_congr {s s' : St} (hj : J s) (he : s'.eps = s.eps) (hc : s'.current = s.current)
    (hf : s'.future = s.future) : J s' := by
  unfold J
  rw [he, hc, hf]
  exact hj

theorem muc_J {s : St} (hb : Base s) : J (maybeUpdateCurrent s) := by
  obtain ⟨o, h, hm⟩ := muc_spec s
  rw [hm]
  intro e
  generalize nextCur s.eps s.current s.d = n at h ⊢
  -- once `current` is the top available endpoint `T`, a different available `e` is outranked by it
  have onTop : ∀ T, topAvail s.eps = some T → findEp s.eps s.future = some e → e.status = .available →
      topAvail s.eps = some e ∨ ∃ c, findEp s.eps T.id = some c ∧ c.status ≠ .unavailable ∧ c.prio < e.prio := by
    intro T hT hfe hav
    have hTm := topAvail_mem hT
    by_cases heT : e = T
    · left; rw [heT]; exact hT
    · have hle := topAvail_min hT e (findEp_some hfe).1 hav
      have hne := prio_ne hb.idInj hb.prioInj (findEp_some hfe).1 hTm.1 heT
      exact Or.inr ⟨T, findEp_of_mem hb.idInj hTm.1, by rw [hTm.2]; simp, by omega⟩
  cases h with
  | noAvail c _ ht => intro hfe hav; exact absurd hav (topAvail_eq_none.mp ht e (findEp_some hfe).1)
  | goneNoAvail t _ ht => intro hfe hav; exact absurd hav (topAvail_eq_none.mp ht e (findEp_some hfe).1)
  | guarded c t hc ht hrec hlt =>
    -- the recovering current endpoint outranks every available one
    intro hfe hav
    have := topAvail_min ht e (findEp_some hfe).1 hav
    exact Or.inr ⟨c, hc, by rw [hrec]; simp, by omega⟩
  | isTop c t _ ht hct => rw [hct]; exact onTop t ht
  | switch c t _ ht => exact onTop t ht
  | gone t _ ht => exact onTop t ht
  | defer c t hc ht =>
    -- the target just recorded is the top available endpoint
    intro hfe _
    have : findEp s.eps t.id = some e := hfe
    rw [findEp_of_mem hb.idInj (topAvail_mem ht).1] at this
    cases this; exact Or.inl ht
  | empty h => exact absurd h hb.nonempty

theorem fireSwitch_top {s0 : St} (hj : J s0) :
    (fireSwitch s0 = s0 ∧ ∀ e, findEp s0.eps s0.future = some e → e.status = .available →
      ∃ c, findEp s0.eps s0.current = some c ∧ c.status ≠ .unavailable ∧ c.prio < e.prio) ∨
    ∃ e, findEp s0.eps s0.future = some e ∧ topAvail s0.eps = some e ∧ fireSwitch s0 = { s0 with current := e.id } ∧
      ∀ c, findEp s0.eps s0.current = some c → ¬ (c.status ≠ .unavailable ∧ c.prio < e.prio) := by
  rcases fireSwitch_spec s0 with hidle | ⟨e, hfut, hav, hsw, hguard⟩
  · exact Or.inl hidle
  · rcases hj e hfut hav with htop | ⟨c, hc, hst, hlt⟩
    · exact Or.inr ⟨e, hfut, htop, hsw, hguard⟩
    · exact absurd ⟨hst, hlt⟩ (hguard c hc)

theorem J_step {s : St} (h : Inv s) (hj : J s) (op : Op) : J (stepRaw s op).1 := by
  cases step_shape h op with
  | idle he hc _ _ hf => exact J_congr hj he hc hf
  | muc s1 hb _ _ _ heq => rw [heq]; exact muc_J hb
  | sw s0 tid _ he hc hf _ _ heq =>
    have hj0 := J_congr hj he hc hf
    rw [heq]
    rcases fireSwitch_top hj0 with ⟨hid, -⟩ | ⟨e, hfut, htop, hsw, -⟩
    · rw [hid]; exact hj0
    · rw [hsw]
      intro e' hfe' _
      cases hfut.symm.trans hfe'
      exact Or.inl htop

theorem reach_J {s : St} (h : Reach s) : J s := by
  induction h with
  | initRaw _ _ hi => exact fun e hfe hav => absurd hav (init_not_available hi e (findEp_some hfe).1)
  | stepRaw op hr ih => exact J_step (reach_inv hr) ih op

theorem stable_step {s : St} (h : Inv s) (hj : J s) (hs : nextCur s.eps s.current s.d = s.current) (op : Op) :
    nextCur (stepRaw s op).1.eps (stepRaw s op).1.current (stepRaw s op).1.d = (stepRaw s op).1.current := by
  cases step_shape h op with
  | idle he hc _ hd _ => rw [he, hc, hd]; exact hs
  | muc s1 hb _ _ _ heq =>
    obtain ⟨he, -, hd, -⟩ := muc_fields s1
    rw [heq, he, hd, muc_current]; exact nextCur_nextCur hb.idInj _ _
  | sw s0 tid _ he hc hf _ hd heq =>
    rw [heq]
    rcases fireSwitch_top (J_congr hj he hc hf) with ⟨hid, -⟩ | ⟨e, -, htop, hsw, -⟩
    · rw [hid, he, hc, hd]; exact hs
    · rw [hsw]; exact nextCur_fix (he ▸ h.idInj) (topAvail_mem htop).1 (Or.inl htop) _

theorem reach_stable {s : St} (h : Reach s) : nextCur s.eps s.current s.d = s.current := by
  induction h with
  | @initRaw r d l s hr hd hi =>
    obtain ⟨c, hc⟩ := (inv_init hr hd hi).curMem
    exact nextCur_eq_self hc fun t ht => by rw [topAvail_eq_none.mpr (init_not_available hi)] at ht; cases ht
  | stepRaw op hr ih => exact stable_step (reach_inv hr) (reach_J hr) ih op

/-- with `d = 0`, `current` is always a fixed point of the rule -/
def K (s : St) : Prop := s.d = 0 → nextCur s.eps s.current 0 = s.current

theorem reach_K {s : St} (h : Reach s) : K s := fun hd => by have := reach_stable h; rwa [hd] at this

theorem current_after {s : St} (h : Reach s) (op : Op) :
    ∃ d, (stepRaw s op).1.current = nextCur (stepRaw s op).1.eps s.current d ∧
      (d = s.d ∨ (d = 0 ∧ ∃ tid, op = .fire tid)) := by
  cases step_shape (reach_inv h) op with
  | idle he hc _ _ _ => exact ⟨s.d, by rw [he, hc]; exact (reach_stable h).symm, Or.inl rfl⟩
  | muc s1 _ hc1 _ hd1 heq => exact ⟨s.d, by rw [heq, muc_eps s1, muc_current, hc1, hd1], Or.inl rfl⟩
  | sw s0 tid hop he hc hf _ _ heq =>
    rw [heq]
    rcases fireSwitch_top (J_congr (reach_J h) he hc hf) with ⟨hid, -⟩ | ⟨e, -, htop, hsw, hguard⟩
    · exact ⟨s.d, by rw [hid, he, hc]; exact (reach_stable h).symm, Or.inl rfl⟩
    · rw [hsw, ← hc]
      exact ⟨0, (nextCur_guard htop hguard).symm, Or.inr ⟨rfl, tid, hop⟩⟩

/-- **C13.3** whenever an operation changes `current` while some endpoint is available, the new
    current endpoint is the highest-priority available one — also when the change is made by a
    delayed-switch timer armed any number of reports, reorders and recoveries earlier -/
theorem c13_switch_top_holds {s : St} (h : Reach s) (op : Op) : c13_switch_top s (stepRaw s op).1 = true := by
  unfold c13_switch_top
  rw [ite_eq_right_iff, Bool.and_eq_true, bne_iff_ne]
  intro ⟨hne, hav⟩
  obtain ⟨d, hA, -⟩ := current_after h op
  obtain ⟨t, ht, hnt⟩ := nextCur_switch_top (d := d) (fun h' => hne (by rw [hA, h'])) hav
  rw [ht, hA]
  exact beq_iff_eq.mpr hnt

/-! ### C13.5: no switching delay -/

/-- for `d = 0` the value `maybeUpdateCurrent` gives `current` is the sentence of C13 -/
theorem nextCur_d0 {eps : List Ep} (hne : eps ≠ [])
    (hid : ∀ a ∈ eps, ∀ b ∈ eps, a.id = b.id → a = b)
    (hp : ∀ a ∈ eps, ∀ b ∈ eps, a.prio = b.prio → a.id = b.id) (cur : String) :
    d0Target cur eps = some (nextCur eps cur 0) := by
  obtain ⟨o, h⟩ := nextCur_spec eps cur 0
  generalize nextCur eps cur 0 = n at h ⊢
  unfold d0Target
  cases h with
  | noAvail c hc ht => rw [hc, ht]; simp only [(findEp_some hc).2]; split <;> rfl
  | guarded c t hc ht hrec hlt =>
    have : ¬ t.prio < c.prio := by omega
    rw [hc, ht]; simp [higherAvail_eq ht, hrec, this, (findEp_some hc).2]
  | isTop c t hc ht hct =>
    have htm := topAvail_mem ht
    have : c = t := hid c (findEp_some hc).1 t htm.1 (by rw [(findEp_some hc).2, hct])
    rw [hc, ht]; simp [this, htm.2, hct]
  | defer _ _ _ _ _ _ hd => exact absurd rfl hd
  | switch c t hc ht hpr hct =>
    have htm := topAvail_mem ht
    have hcm := findEp_some hc
    -- a recovering `c` that is not protected is outranked by `t` (priorities are distinct)
    have : c.status = .recovering → t.prio < c.prio := fun hrec => by
      have h1 : ¬ c.prio < t.prio := fun hlt => by
        have := isProtected_some.mpr ⟨hrec, hlt⟩; rw [hpr] at this; cases this
      have h2 : t.prio ≠ c.prio := fun heq => by
        have := hid t htm.1 c hcm.1 (hp t htm.1 c hcm.1 heq)
        rw [this, hrec] at htm; cases htm.2
      omega
    rw [hc, ht]
    by_cases hrec : c.status = .recovering
    · simp [higherAvail_eq ht, hrec, this hrec]
    · simp [hrec]
  | gone t hc ht => rw [hc, ht]
  | goneNoAvail t hc ht hto => rw [hc, ht, hto]; rfl
  | empty h => exact absurd h hne

theorem nextCur_idem {eps : List Ep} (hne : eps ≠ [])
    (hid : ∀ a ∈ eps, ∀ b ∈ eps, a.id = b.id → a = b) (cur : String) :
    nextCur eps (nextCur eps cur 0) 0 = nextCur eps cur 0 :=
  nextCur_nextCur hid cur 0

/-- **C13.5** with no switching delay, after every operation `current` is exactly: the recovering
    current endpoint if no higher-priority endpoint is available, otherwise the highest-priority
    available endpoint, otherwise unchanged (the list's first endpoint if it was removed) -/
theorem c13_d0_holds {s : St} (h : Reach s) (op : Op) : c13_d0 s (stepRaw s op).1 = true := by
  have hpost := inv_step (reach_inv h) op
  unfold c13_d0
  rw [ite_eq_right_iff, beq_iff_eq, beq_iff_eq]
  intro hd0
  obtain ⟨d, hA, hd⟩ := current_after h op
  rw [nextCur_d0 hpost.nonempty hpost.idInj hpost.prioInj, hA, show d = 0 from hd.elim (·.trans hd0) (·.1)]

/-! ### C14.3: a repeated "unavailable" report -/

theorem muc_recovery_timers (s : St) :
    (liveTimers (maybeUpdateCurrent s)).filter isRecoveryTimer = (liveTimers s).filter isRecoveryTimer := by
  obtain ⟨o, -, hm⟩ := muc_spec s
  rw [hm]
  cases o with
  | none => rfl
  | some t => simp [liveTimers, addTimer, isRecoveryTimer]

/-- **C14.3** a repeated "unavailable" report — for an endpoint that is not available, or an unknown
    one — changes neither the endpoint table, nor `current`, nor any pending recovery timer: the
    recovery window is not extended -/
theorem c14_repeat_holds {s : St} (h : Reach s) (op : Op) : c14_repeat s op (stepRaw s op).1 = true := by
  unfold c14_repeat
  cases op with
  | setAvail e a =>
    cases a with
    | true => rfl
    | false =>
      -- in the no-op case the call reduces to `maybeUpdateCurrent s`, and `current` is stable
      have hr := sea_spec s e false
      rw [show (stepRaw s (.setAvail e false)).1 = maybeUpdateCurrent (setEndpointAvailability s e false) from rfl]
      generalize setEndpointAvailability s e false = s1 at hr
      cases hr with
      | noop =>
        rw [muc_eps s, muc_current, reach_stable h, muc_recovery_timers]
        simp
      | down x hf hav | window x hf hav => simp [hf, hav]
  | setEndpoints l => rfl
  | advance dt => rfl
  | fire tid => rfl

end GcpVerif.ME
