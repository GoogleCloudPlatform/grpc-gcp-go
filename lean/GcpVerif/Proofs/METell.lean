/-
A MultiEndpoint without recovery timeout that is told about endpoints in an order in which no newly
available endpoint outranks one that is available already: its current endpoint is the top-priority
available one after every report — whatever its switching delay, because no switch is ever from an
available endpoint to a better one (the only switch that the delay defers).  This is what the status
update of UpdateMultiEndpoints relies on since F34 (Proofs/GME4.lean).
-/
import GcpVerif.Proofs.MEStep
namespace GcpVerif.ME

/-- no recovery timeout, nothing recovering, and `current` is the top available endpoint if there is one -/
structure Told (s : St) : Prop where
  r0 : s.r = 0
  norec : ∀ e ∈ s.eps, e.status ≠ .recovering
  top : ∀ t, topAvail s.eps = some t → s.current = t.id

theorem Status.eq_unavailable {st : Status} (h1 : st ≠ .available) (h2 : st ≠ .recovering) : st = .unavailable := by
  cases st with
  | available => exact absurd rfl h1
  | recovering => exact absurd rfl h2
  | unavailable => rfl

theorem muc_id_of_told {s : St} (hi : Inv s) (h : Told s) : maybeUpdateCurrent s = s := by
  obtain ⟨o, hn, hm⟩ := muc_spec s
  rw [hm]
  generalize nextCur s.eps s.current s.d = n at hn
  cases hn with
  | noAvail | isTop | empty => rfl
  | guarded c t hc _ hrec => exact absurd hrec (h.norec c (findEp_some hc).1)
  | defer c t _ ht _ hne | switch c t _ ht _ hne => exact absurd (h.top t ht) hne
  | gone t hc | goneNoAvail t hc => obtain ⟨c, hc'⟩ := hi.curMem; rw [hc] at hc'; cases hc'

theorem tell_false_noop {s : St} (hi : Inv s) (h : Told s) (e : String)
    (hna : ∀ x, findEp s.eps e = some x → x.status ≠ .available) : opSetAvail s e false = s := by
  unfold opSetAvail
  have hr := sea_spec s e false
  generalize setEndpointAvailability s e false = s1 at hr ⊢
  cases hr with
  | noop => exact muc_id_of_told hi h
  | down x hf hav | window x hf hav => exact absurd hav (hna x hf)

theorem tell_unknown {s : St} (hi : Inv s) (h : Told s) (e : String) (a : Bool)
    (hf : findEp s.eps e = none) : opSetAvail s e a = s := by
  unfold opSetAvail setEndpointAvailability
  rw [hf]
  exact muc_id_of_told hi h

theorem tell_true {s : St} (hr : Reach s) (h : Told s) (e : String) (x : Ep) (hf : findEp s.eps e = some x)
    (hrank : ∀ t, topAvail s.eps = some t → t.prio ≤ x.prio) :
    Told (opSetAvail s e true) ∧
    ∀ y ∈ (opSetAvail s e true).eps, ∃ z ∈ s.eps, y.id = z.id ∧ y.prio = z.prio ∧
      (z.id = e → y.status = .available) ∧ (z.id ≠ e → y.status = z.status) := by
  have hi := reach_inv hr
  obtain ⟨hxm, rfl⟩ := findEp_some hf
  -- the report rewrites the table entry by entry (`F`), then `maybeUpdateCurrent` runs on the new table
  obtain ⟨F, heps1, hF, hav, hoff, hcur, hr1, -⟩ := report_table (sea_spec s x.id true)
  have heps : (opSetAvail s x.id true).eps = s.eps.map F := (muc_eps _).trans heps1
  have fhit : ∀ z ∈ s.eps, z.id = x.id → (F z).status = .available := fun z hz hze =>
    (hav z (hze ▸ findEp_of_mem hi.idInj hz)).mpr rfl
  have fmiss : ∀ z ∈ s.eps, z.id ≠ x.id → (F z).status = z.status := fun z _ hze => by rw [hoff z hze]
  have fnr : ∀ z ∈ s.eps, (F z).status ≠ .recovering := fun z hz => by
    by_cases hze : z.id = x.id
    · rw [fhit z hz hze]; exact fun h => nomatch h
    · rw [fmiss z hz hze]; exact h.norec z hz
  refine ⟨⟨?_, ?_, ?_⟩, ?_⟩
  · exact ((muc_fields _).2.1.trans hr1).trans h.r0
  · intro y hy
    obtain ⟨z, hz, rfl⟩ := List.mem_map.mp (heps ▸ hy)
    exact fnr z hz
  · intro t' ht'
    rw [heps] at ht'
    obtain ⟨ht'm, ht'a⟩ := topAvail_mem ht'
    obtain ⟨z, hz, rfl⟩ := List.mem_map.mp ht'm
    obtain ⟨c, hc⟩ := hi.curMem
    obtain ⟨hcm, hcid⟩ := findEp_some hc
    have hc1 : findEp (s.eps.map F) s.current = some (F c) := by rw [findEp_map_id _ _ _ fun y => (hF y).1, hc]; rfl
    show (maybeUpdateCurrent _).current = _
    rw [muc_current, heps1, hcur]
    refine nextCur_top hc1 ht' (fnr c hcm) ?_
    rw [(hF z).1]
    cases hpre : topAvail s.eps with
    | some t =>
      -- the old top endpoint is still available and nothing available outranks it: it is `z`
      left
      obtain ⟨htm, hta⟩ := topAvail_mem hpre
      have h1 : (F z).prio ≤ (F t).prio := topAvail_min ht' (F t) (List.mem_map_of_mem htm) (by
        by_cases hte : t.id = x.id
        · exact fhit t htm hte
        · rw [fmiss t htm hte]; exact hta)
      have h2 : t.prio ≤ z.prio := by
        by_cases hze : z.id = x.id
        · rw [hi.idInj z hz x hxm hze]; exact hrank t hpre
        · exact topAvail_min hpre z hz (by rw [← fmiss z hz hze]; exact ht'a)
      rw [(hF z).2, (hF t).2] at h1
      rw [h.top t hpre]
      exact hi.prioInj t htm z hz (Nat.le_antisymm h2 h1)
    | none =>
      -- nothing was available: `z` is the reported endpoint, and `current` is it or is unavailable
      have hnone := topAvail_eq_none.mp hpre
      have hze : z.id = x.id := Classical.byContradiction fun hze => hnone z hz (by rw [← fmiss z hz hze]; exact ht'a)
      by_cases hcx : c.id = x.id
      · left; rw [← hcid, hcx, hze]
      · right; rw [fmiss c hcm hcx]; exact Status.eq_unavailable (hnone c hcm) (h.norec c hcm)
  · intro y hy
    obtain ⟨z, hz, rfl⟩ := List.mem_map.mp (heps ▸ hy)
    exact ⟨z, hz, (hF z).1, (hF z).2, fhit z hz, fmiss z hz⟩

end GcpVerif.ME
