/-
Regions of one mutex are atomic: a reduction theorem for the simplest discipline, every shared access of
every goroutine inside a `lock … unlock` region of the same mutex.  For every number of goroutines, all
programs that keep the discipline and every fine-grained schedule (instructions of different goroutines
interleaved in any way) the run is matched by a run of the coarse semantics, in which a whole region is ONE
step, taken at the moment the region's `lock` was (`regions_atomic`, `regions_atomic_idle`).  This is why
`Model/Pool.lean` may take a whole pick (scan + growth decision + placement) and a whole completion as single
steps once `c02_counters_under_pick_mutex` holds.  `unprotected_access_breaks_atomicity` is the F39 shape,
which does not keep the discipline.
-/
import GcpVerif.Model.Atomic
namespace GcpVerif.Atomic

variable {σ : Type}

@[simp] theorem upd_same (p : Nat → Prog σ) (t : Nat) (r : Prog σ) : upd p t r t = r := if_pos rfl
theorem upd_other (p : Nat → Prog σ) (t u : Nat) (r : Prog σ) (h : u ≠ t) : upd p t r u = p u := if_neg h
@[simp] theorem upd_upd (p : Nat → Prog σ) (t : Nat) (r r' : Prog σ) : upd (upd p t r) t r' = upd p t r' := by
  funext u; simp only [upd]; split <;> rfl
theorem upd_comm (p : Nat → Prog σ) (t o : Nat) (r q : Prog σ) (h : t ≠ o) :
    upd (upd p t r) o q = upd (upd p o q) t r := by
  funext u; simp only [upd]
  by_cases h1 : u = o
  · subst h1
    have h2 : u ≠ t := fun e => h e.symm
    simp [h2]
  · simp [h1]

theorem wf_out (p : Prog σ) (h : wf false p = true) :
    p = [] ∨ (∃ r, p = .lock :: r ∧ wf true r = true) ∨ (∃ r, p = .tau :: r ∧ wf false r = true) := by
  cases p with
  | nil => exact .inl rfl
  | cons i r =>
    cases i with
    | lock => exact .inr (.inl ⟨r, rfl, h⟩)
    | tau => exact .inr (.inr ⟨r, rfl, h⟩)
    | unlock => cases h
    | acc f => cases h

theorem wf_in (p : Prog σ) (h : wf true p = true) :
    (∃ r, p = .unlock :: r ∧ wf false r = true) ∨ (∃ f r, p = .acc f :: r ∧ wf true r = true) ∨
      (∃ r, p = .tau :: r ∧ wf true r = true) := by
  cases p with
  | nil => cases h
  | cons i r =>
    cases i with
    | lock => cases h
    | tau => exact .inr (.inr ⟨r, rfl, h⟩)
    | unlock => exact .inl ⟨r, rfl, h⟩
    | acc f => exact .inr (.inl ⟨f, r, rfl, h⟩)

theorem Inv.advance {c : Cfg σ} (hi : Inv c) (t : Nat) {r : Prog σ} {o : Option Nat} (st : σ)
    (ht : wf (o == some t) r = true) (ho : ∀ u, u ≠ t → (o == some u) = (c.owner == some u)) :
    Inv { st := st, owner := o, progs := upd c.progs t r } := by
  intro u
  show wf (o == some u) (upd c.progs t r u) = true
  by_cases hu : u = t
  · subst hu; rwa [upd_same]
  · rw [upd_other _ _ _ _ hu, ho u hu]; exact hi u

/-- **one fine-grained instruction is a coarse step or invisible**, and keeps the discipline -/
theorem sim (c c' : Cfg σ) (hi : Inv c) (t : Nat) (hs : fstep c t = some c') :
    Inv c' ∧ (abs c' = abs c ∨ cstep (abs c) t = some (abs c')) := by
  have hwt := hi t
  have hne {a b : Nat} (h : a ≠ b) : (some a == some b) = false := by simpa using h
  have hself : (some t == some t) = true := beq_self_eq_true _
  cases ho : c.owner with
  | none =>
    -- nobody holds the mutex: `t` takes it (a coarse region step) or makes a private step
    rw [ho] at hwt
    rcases wf_out _ hwt with hp | ⟨r, hp, hr⟩ | ⟨r, hp, hr⟩
    · simp [fstep, hp] at hs
    · simp only [fstep, hp, ho, if_true, Option.some.injEq] at hs
      subst hs
      exact ⟨hi.advance t _ (by rw [hself]; exact hr) fun u hu => by rw [ho, hne (Ne.symm hu)]; rfl,
        .inr (by simp [abs, ho, cstep, hp])⟩
    · simp only [fstep, hp, Option.some.injEq] at hs
      subst hs
      exact ⟨hi.advance t _ (by rw [ho]; exact hr) fun _ _ => rfl, .inr (by simp [abs, ho, cstep, hp])⟩
  | some o =>
    by_cases hto : t = o
    · -- the holder works inside its region: invisible
      subst hto
      have hot : (c.owner == some t) = true := by rw [ho]; exact hself
      rw [hot] at hwt
      rcases wf_in _ hwt with ⟨r, hp, hr⟩ | ⟨f, r, hp, hr⟩ | ⟨r, hp, hr⟩
      · simp only [fstep, hp, ho, if_true, Option.some.injEq] at hs
        subst hs
        exact ⟨hi.advance t _ hr fun u hu => by rw [ho, hne (Ne.symm hu)]; rfl,
          .inl (by simp [abs, ho, hp, runRegion])⟩
      · simp only [fstep, hp, Option.some.injEq] at hs
        subst hs
        exact ⟨hi.advance t _ (by rw [hot]; exact hr) fun _ _ => rfl, .inl (by simp [abs, ho, hp, runRegion])⟩
      · simp only [fstep, hp, Option.some.injEq] at hs
        subst hs
        exact ⟨hi.advance t _ (by rw [hot]; exact hr) fun _ _ => rfl, .inl (by simp [abs, ho, hp, runRegion])⟩
    · -- somebody else holds it: `t` can only make a private step (an access is excluded by the discipline)
      have hb : (c.owner == some t) = false := by rw [ho]; exact hne (Ne.symm hto)
      rw [hb] at hwt
      rcases wf_out _ hwt with hp | ⟨r, hp, hr⟩ | ⟨r, hp, hr⟩
      · simp [fstep, hp] at hs
      · simp [fstep, hp, ho] at hs
      · simp only [fstep, hp, Option.some.injEq] at hs
        subst hs
        refine ⟨hi.advance t _ (by rw [hb]; exact hr) fun _ _ => rfl, .inr ?_⟩
        simp [abs, ho, cstep, upd_other _ _ _ _ (Ne.symm hto), upd_other _ _ _ _ hto, hp, upd_comm _ _ _ _ _ hto]

/-- **regions are atomic** (every schedule, any number of goroutines, any programs that keep the
    discipline): a fine-grained run is matched by a coarse run whose schedule is a sub-sequence of
    the fine one — each region executed as one step where its `lock` was taken -/
theorem regions_atomic (sched : List Nat) (c c' : Cfg σ) (hi : Inv c) (hr : frun c sched = some c') :
    Inv c' ∧ ∃ cs, cs.Sublist sched ∧ crun (abs c) cs = some (abs c') := by
  induction sched generalizing c with
  | nil =>
    simp only [frun, Option.some.injEq] at hr
    subst hr
    exact ⟨hi, [], List.Sublist.refl _, rfl⟩
  | cons t ts ih =>
    simp only [frun] at hr
    cases hs : fstep c t with
    | none => simp [hs] at hr
    | some c1 =>
      simp only [hs, Option.bind_some] at hr
      obtain ⟨hi1, hstep⟩ := sim c c1 hi t hs
      obtain ⟨hi', cs, hsub, hrun⟩ := ih c1 hi1 hr
      refine ⟨hi', ?_⟩
      rcases hstep with heq | hc
      · exact ⟨cs, List.Sublist.cons _ hsub, by rw [← heq]; exact hrun⟩
      · exact ⟨t :: cs, List.Sublist.cons_cons _ hsub, by simp [crun, hc, hrun]⟩

/-- start and end with the mutex free: same shared state and same remaining programs as the coarse run -/
theorem regions_atomic_idle (sched : List Nat) (st : σ) (progs : Nat → Prog σ)
    (hwf : ∀ t, wf false (progs t) = true) (c' : Cfg σ)
    (hr : frun { st := st, owner := none, progs := progs } sched = some c') (hfree : c'.owner = none) :
    ∃ cs, cs.Sublist sched ∧ crun { st := st, progs := progs } cs = some { st := c'.st, progs := c'.progs } := by
  obtain ⟨_, cs, hsub, hrun⟩ := regions_atomic sched ⟨st, none, progs⟩ c' hwf hr
  refine ⟨cs, hsub, ?_⟩
  simpa [abs, hfree] using hrun

/-! ### the pool's shape: scans, placements and completions over two channels -/

/-- two stream counters, the scan's registers, and what the pick decided -/
structure Two where
  a : Nat
  b : Nat
  sa : Nat := 0
  sb : Nat := 0
  grew : Bool := false
  deriving DecidableEq, Repr

/-- a pick with watermark 2: read both counters, then grow if both are at the watermark, else place
    on the less loaded channel -/
def pick : Prog Two :=
  [.lock, .acc (fun s => { s with sa := s.a }), .acc (fun s => { s with sb := s.b }),
   .acc (fun s => if s.sa ≥ 2 ∧ s.sb ≥ 2 then { s with grew := true }
                  else if s.sa ≤ s.sb then { s with a := s.a + 1 } else { s with b := s.b + 1 }),
   .unlock]

/-- a completion on the first channel and a round-robin placement on the second, under the mutex
    (the code since F39) … -/
def otherLocked : Prog Two :=
  [.lock, .acc (fun s => { s with a := s.a - 1 }), .unlock, .lock, .acc (fun s => { s with b := s.b + 1 }), .unlock]

/-- … and outside it (before) -/
def otherUnlocked : Prog Two :=
  [.acc (fun s => { s with a := s.a - 1 }), .acc (fun s => { s with b := s.b + 1 })]

def progsOf (other : Prog Two) : Nat → Prog Two := fun t => if t = 0 then pick else if t = 1 then other else []

/-- the repaired shape keeps the discipline (so `regions_atomic_idle` applies to it: non-vacuity) -/
example : ∀ t, wf false (progsOf otherLocked t) = true := by
  intro t
  by_cases h0 : t = 0
  · subst h0; rfl
  · by_cases h1 : t = 1
    · subst h1; rfl
    · simp [progsOf, h0, h1, wf]

/-- the unrepaired one does not -/
example : wf false (progsOf otherUnlocked 1) = false := rfl

def start : Two := { a := 2, b := 1 }

/-- **F39, in the model**: with the other goroutine's updates outside the mutex there is a schedule
    on which the pick decides to grow, while in each of the three serial positions of the pick
    (before, between, after the two updates) it does not -/
theorem unprotected_access_breaks_atomicity :
    ((frun { st := start, owner := none, progs := progsOf otherUnlocked } [0, 0, 1, 1, 0, 0, 0]).map (·.st.grew) = some true) ∧
    ((crun { st := start, progs := progsOf otherUnlocked } [0, 1, 1]).map (·.st.grew) = some false) ∧
    ((crun { st := start, progs := progsOf otherUnlocked } [1, 0, 1]).map (·.st.grew) = some false) ∧
    ((crun { st := start, progs := progsOf otherUnlocked } [1, 1, 0]).map (·.st.grew) = some false) := by
  refine ⟨?_, ?_, ?_, ?_⟩ <;> decide

/-- with the updates under the mutex the same schedule is not even possible: the second goroutine
    blocks on `lock` while the pick is in its region -/
example : (frun { st := start, owner := none, progs := progsOf otherLocked } [0, 0, 1]).isNone = true := by decide

end GcpVerif.Atomic
