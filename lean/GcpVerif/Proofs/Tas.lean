/-
At most one winner of an atomic test-and-set, for any number of threads and any schedule; the
per-run obligations that the two places the models rely on have that shape in the current sources.
-/
import GcpVerif.Model.Tas
import GcpVerif.Generated.Consts
namespace GcpVerif.Tas

def Inv (s : St) : Prop := winners s = if s.flag then 1 else 0

theorem winners_set {s : St} {i : Nat} (h : s.pcs[i]? = some .start) (x : Pc) (f : Bool) :
    winners { flag := f, pcs := s.pcs.set i x } = winners s + if x = .won then 1 else 0 := by
  obtain ⟨hi, e⟩ := List.getElem?_eq_some_iff.1 h
  simp only [winners, ← List.countP_eq_length_filter]
  rw [List.countP_set hi, e]
  simp

theorem inv_step {s : St} (h : Inv s) (i : Nat) : Inv (stepAtomic s i) := by
  unfold stepAtomic
  split
  · next hp =>
    unfold Inv at h ⊢
    cases hf : s.flag
    · -- the flag is clear: the thread wins and sets it
      rw [hf] at h
      rw [if_neg Bool.false_ne_true, winners_set hp, h]
      rfl
    · -- the flag is set: the thread loses
      rw [hf] at h
      rw [if_pos rfl, winners_set hp, h]
      rfl
  · exact h

/-- **C07 / C12** any number of threads, any schedule: an atomic test-and-set has at most one winner -/
theorem one_winner (n : Nat) (sched : List Nat) : winners (sched.foldl stepAtomic (init n)) ≤ 1 := by
  have h0 : Inv (init n) := by
    simp [Inv, winners, init]
  rw [show Inv _ from List.foldlRecOn sched _ h0 fun _ h i _ => inv_step h i]
  split <;> decide

/-- with the test outside the region two threads win (kernel-checked witness) -/
theorem split_two_winners : winners ([0, 1, 0, 1].foldl stepSplit (init 2)) = 2 := by decide

/-- **C12 (per run)** `initStream` tests `cs.ClientStream` and assigns it while the stream's mutex,
    held by its callers, stays held (no Unlock in between) -/
theorem init_stream_test_and_set_atomic : GcpVerif.Generated.initStreamTestAndSetAtomic = true := by decide

/-- **C07 (per run)** `refresh` tests `ref.refreshing` and sets it inside one `ref.mu` region -/
theorem refresh_test_and_set_atomic : GcpVerif.Generated.refreshTestAndSetAtomic = true := by decide

end GcpVerif.Tas
