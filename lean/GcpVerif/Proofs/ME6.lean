/-
"Known to be available" (C13): in every reachable state an endpoint of the list has status
`available` exactly when the last availability report for it, since it was (re)added to the list,
said "available" — no timer, however stale, stopped or late, ever takes that away.

`SInv`: the stamp discipline of the recovery timers. A recovery timer carries the `lastChange`
stamp of its endpoint object at the time it was scheduled; stamps are never in the future, never
newer than the object's current `lastChange`, and the only timer whose stamp *equals* the object's
current `lastChange` is the object's own current timer — and then the object is recovering.
The same discipline gives C14 `recovery_not_cut_short`: a timer that ends a recovery window is the
one armed when the window began.
-/
import GcpVerif.Proofs.ME3
namespace GcpVerif.ME

structure SInv (s : St) : Prop where
  lcNow : ∀ e ∈ s.eps, ∀ tl, e.lastChange = some tl → tl ≤ s.now
  tmr : ∀ t ∈ s.timers, ∀ obj id stamp, t.kind = .recovery obj id stamp →
    0 < s.r ∧ obj < s.nextObj ∧ ∀ ts, stamp = some ts → t.due = ts + s.r ∧ ts ≤ s.now
  cur : ∀ t ∈ s.timers, ∀ obj id stamp, t.kind = .recovery obj id stamp → ∀ e ∈ s.eps, e.obj = obj →
    e.lastChange = stamp → e.status = .recovering ∧ e.timer = some t.tid
  mono : ∀ t ∈ s.timers, ∀ obj id ts, t.kind = .recovery obj id (some ts) → ∀ e ∈ s.eps, e.obj = obj →
    ∃ tl, e.lastChange = some tl ∧ ts ≤ tl
  objLt : ∀ e ∈ s.eps, e.obj < s.nextObj

/-- `cur` and `mono` speak of the same pairs — a recovery timer and a map entry for its object — and are
    shown together -/
theorem sinv_of_pairs {s : St}
    (lcNow : ∀ e ∈ s.eps, ∀ tl, e.lastChange = some tl → tl ≤ s.now)
    (tmr : ∀ t ∈ s.timers, ∀ obj id stamp, t.kind = .recovery obj id stamp →
      0 < s.r ∧ obj < s.nextObj ∧ ∀ ts, stamp = some ts → t.due = ts + s.r ∧ ts ≤ s.now)
    (pair : ∀ t ∈ s.timers, ∀ obj id stamp, t.kind = .recovery obj id stamp → ∀ e ∈ s.eps, e.obj = obj →
      (e.lastChange = stamp → e.status = .recovering ∧ e.timer = some t.tid) ∧
      ∀ ts, stamp = some ts → ∃ tl, e.lastChange = some tl ∧ ts ≤ tl)
    (objLt : ∀ e ∈ s.eps, e.obj < s.nextObj) : SInv s :=
  ⟨lcNow, tmr, fun t ht obj id stamp hk e he ho => (pair t ht obj id stamp hk e he ho).1,
    fun t ht obj id ts hk e he ho => (pair t ht obj id _ hk e he ho).2 ts rfl, objLt⟩

theorem sinv_pair {s : St} (h : SInv s) {t : Timer} (ht : t ∈ s.timers) {obj : Nat} {id : String} {stamp : Option Int}
    (hk : t.kind = .recovery obj id stamp) {e : Ep} (he : e ∈ s.eps) (ho : e.obj = obj) :
    (e.lastChange = stamp → e.status = .recovering ∧ e.timer = some t.tid) ∧
    ∀ ts, stamp = some ts → ∃ tl, e.lastChange = some tl ∧ ts ≤ tl :=
  ⟨h.cur t ht obj id stamp hk e he ho, fun ts hts => h.mono t ht obj id ts (hts ▸ hk) e he ho⟩

theorem sinv_frame {s s' : St} (h : SInv s) (hr : s'.r = s.r) (hn : s.now ≤ s'.now) (ho : s.nextObj ≤ s'.nextObj)
    (he : ∀ y ∈ s'.eps, ∃ x ∈ s.eps, y.obj = x.obj ∧ y.status = x.status ∧ y.lastChange = x.lastChange ∧ y.timer = x.timer)
    (ht : ∀ t' ∈ s'.timers, (∃ t ∈ s.timers, t'.tid = t.tid ∧ t'.kind = t.kind ∧ t'.due = t.due) ∨ t'.kind = .switch) :
    SInv s' := by
  -- a recovery timer of `s'` is one of `s`
  have ht' : ∀ t' ∈ s'.timers, ∀ obj id stamp, t'.kind = .recovery obj id stamp →
      ∃ t ∈ s.timers, t'.tid = t.tid ∧ t.kind = .recovery obj id stamp ∧ t'.due = t.due := by
    intro t' htm obj id stamp hk
    rcases ht t' htm with ⟨t, htm, e1, e2, e3⟩ | hsw
    · exact ⟨t, htm, e1, e2 ▸ hk, e3⟩
    · rw [hsw] at hk; cases hk
  refine sinv_of_pairs (fun y hy tl hl => ?_) (fun t' htm obj id stamp hk => ?_)
    (fun t' htm obj id stamp hk y hy hobj => ?_) (fun y hy => ?_)
  · obtain ⟨x, hx, -, -, e3, -⟩ := he y hy
    exact Int.le_trans (h.lcNow x hx tl (e3 ▸ hl)) hn
  · obtain ⟨t, htm, -, hk, e3⟩ := ht' t' htm obj id stamp hk
    obtain ⟨a, b, c⟩ := h.tmr t htm obj id stamp hk
    exact ⟨hr ▸ a, Nat.lt_of_lt_of_le b ho, fun ts hts => ⟨by rw [e3, hr]; exact (c ts hts).1, Int.le_trans (c ts hts).2 hn⟩⟩
  · obtain ⟨t, htm, e1, hk, -⟩ := ht' t' htm obj id stamp hk
    obtain ⟨x, hx, f1, f2, f3, f4⟩ := he y hy
    rw [f2, f3, f4, e1]
    exact sinv_pair h htm hk hx (f1 ▸ hobj)
  · obtain ⟨x, hx, f1, -⟩ := he y hy
    exact f1 ▸ Nat.lt_of_lt_of_le (h.objLt x hx) ho

/-- the usual instance of the endpoint premise of `sinv_frame` -/
theorem eps_same {l : List Ep} : ∀ y ∈ l, ∃ x ∈ l, y.obj = x.obj ∧ y.status = x.status ∧ y.lastChange = x.lastChange ∧ y.timer = x.timer :=
  fun y hy => ⟨y, hy, rfl, rfl, rfl, rfl⟩

theorem timers_same {l : List Timer} : ∀ t' ∈ l, (∃ t ∈ l, t'.tid = t.tid ∧ t'.kind = t.kind ∧ t'.due = t.due) ∨ t'.kind = .switch :=
  fun t ht => .inl ⟨t, ht, rfl, rfl, rfl⟩

theorem stopped_not_due {now : Int} {ts : List Timer} {t0 t' : Timer}
    (hinj : ∀ a ∈ ts, ∀ b ∈ ts, a.tid = b.tid → a = b) (ht0 : t0 ∈ ts) (hdue : now < t0.due)
    (ht' : t' ∈ stopTimer now ts t0.tid) (htid : t'.tid = t0.tid) : False := by
  obtain ⟨t1, ht1, h1 | h1⟩ := mem_stopTimer.mp ht'
  · rw [hinj t1 ht1 t0 ht0 h1.1] at h1
    exact Int.lt_irrefl _ (Int.lt_of_lt_of_le hdue h1.2.1)
  · rw [h1.2] at htid; exact h1.1 htid

/-- `setState(e, st)` at time `now`, with the timer (if any) armed for `e` in the same breath: the old
    timer of `e` is stopped, `e` is stamped `now`. No surviving old timer carries the stamp `now`: it would be
    `e`'s own current one, not yet due (`0 < r`), and stopping removed it. -/
theorem sinv_touch {s : St} (h : SInv s)
    (hinj : ∀ a ∈ s.timers, ∀ b ∈ s.timers, a.tid = b.tid → a = b)
    (hid : ∀ a ∈ s.eps, ∀ b ∈ s.eps, a.id = b.id → a = b)
    (hobjU : ∀ a ∈ s.eps, ∀ b ∈ s.eps, a.obj = b.obj → a.id = b.id)
    {ee : Ep} (hee : ee ∈ s.eps) (st : Status) (tm : Ep → Option Nat) (tms : List Timer) (n : Nat)
    (hts : ∀ t ∈ tms, t ∈ stopOpt s.now s.timers ee.timer ∨
      (0 < s.r ∧ t.kind = .recovery ee.obj ee.id (some s.now) ∧ t.due = s.now + s.r ∧
        st = .recovering ∧ tm ee = some t.tid)) :
    SInv { s with eps := updId s.eps ee.id fun x => { x with status := st, lastChange := some s.now, timer := tm x },
                  timers := tms, nextTid := n } := by
  -- an entry of the new table is `ee`, restamped, or an old entry for another object
  have hmemE : ∀ y ∈ updId s.eps ee.id (fun x => { x with status := st, lastChange := some s.now, timer := tm x }),
      y = { ee with status := st, lastChange := some s.now, timer := tm ee } ∨ (y ∈ s.eps ∧ y.obj ≠ ee.obj) := fun y hy =>
    (mem_updId_of_inj hid hee hy).imp_right fun ⟨hy', hne⟩ => ⟨hy', fun ho => hne (hobjU y hy' ee hee ho)⟩
  -- no surviving old timer of `ee` carries the stamp `now`
  have hgone : ∀ t' t0 id, t0 ∈ s.timers → t'.tid = t0.tid → t' ∈ stopOpt s.now s.timers ee.timer →
      t0.kind ≠ .recovery ee.obj id (some s.now) := by
    intro t' t0 id ht0 e1 ht' hk
    obtain ⟨tl, h1, h2⟩ := h.mono t0 ht0 _ _ _ hk ee hee rfl
    have h3 : tl = s.now := Int.le_antisymm (h.lcNow ee hee tl h1) h2
    obtain ⟨-, htm⟩ := h.cur t0 ht0 _ _ _ hk ee hee rfl (h3 ▸ h1)
    obtain ⟨hr, -, hdue⟩ := h.tmr t0 ht0 _ _ _ hk
    rw [htm] at ht'
    exact stopped_not_due hinj ht0 ((hdue s.now rfl).1 ▸ Int.lt_add_of_pos_right _ hr) ht' e1
  refine sinv_of_pairs (fun y hy tl hl => ?_) (fun t' ht' obj id stamp hk => ?_)
    (fun t' ht' obj id stamp hk y hy hobj => ?_) (fun y hy => ?_)
  · rcases hmemE y hy with rfl | ⟨hy', -⟩
    · cases hl; exact Int.le_refl _
    · exact h.lcNow y hy' tl hl
  · rcases hts t' ht' with h1 | ⟨hr, hk', hdue, -, -⟩
    · obtain ⟨t0, ht0, -, e2, e3, -⟩ := mem_stopOpt h1
      rw [e3]; exact h.tmr t0 ht0 obj id stamp (e2 ▸ hk)
    · cases hk'.symm.trans hk
      exact ⟨hr, h.objLt ee hee, fun ts hts => by cases hts; exact ⟨hdue, Int.le_refl _⟩⟩
  · rcases hts t' ht' with h1 | ⟨-, hk', -, hrec, htm⟩
    · obtain ⟨t0, ht0, e1, e2, -, -⟩ := mem_stopOpt h1
      rw [e2] at hk
      rcases hmemE y hy with rfl | ⟨hy', -⟩
      · -- an old timer of `ee`: its stamp is older than `now`
        cases hobj
        exact ⟨fun (hlc : some s.now = stamp) => absurd (hlc ▸ hk) (hgone t' t0 id ht0 e1 h1),
          fun ts' hts => ⟨s.now, rfl, ((h.tmr t0 ht0 _ id _ hk).2.2 ts' hts).2⟩⟩
      · rw [e1]; exact sinv_pair h ht0 hk hy' hobj
    · cases hk'.symm.trans hk
      rcases hmemE y hy with rfl | ⟨-, hne⟩
      · exact ⟨fun _ => ⟨hrec, htm⟩, fun ts' hts => ⟨s.now, rfl, by cases hts; exact Int.le_refl _⟩⟩
      · exact absurd hobj hne
  · rcases hmemE y hy with rfl | ⟨hy', -⟩
    · exact h.objLt ee hee
    · exact h.objLt y hy'

theorem sinv_setStateEp {s : St} (h : SInv s)
    (hinj : ∀ a ∈ s.timers, ∀ b ∈ s.timers, a.tid = b.tid → a = b)
    (hid : ∀ a ∈ s.eps, ∀ b ∈ s.eps, a.id = b.id → a = b)
    (hobjU : ∀ a ∈ s.eps, ∀ b ∈ s.eps, a.obj = b.obj → a.id = b.id) {ee : Ep} (hee : ee ∈ s.eps) (st : Status) :
    SInv (setStateEp s ee st) :=
  sinv_touch h hinj hid hobjU hee st (·.timer) _ s.nextTid fun _ ht => .inl ht

theorem sinv_enterRecovery {s : St} (h : SInv s) (hr : 0 < s.r)
    (hinj : ∀ a ∈ s.timers, ∀ b ∈ s.timers, a.tid = b.tid → a = b)
    (hid : ∀ a ∈ s.eps, ∀ b ∈ s.eps, a.id = b.id → a = b)
    (hobjU : ∀ a ∈ s.eps, ∀ b ∈ s.eps, a.obj = b.obj → a.id = b.id)
    {ee : Ep} (hee : ee ∈ s.eps) : SInv (enterRecovery s ee) := by
  rw [enterRecovery_eq]
  exact sinv_touch h hinj hid hobjU hee .recovering (fun _ => some s.nextTid) _ _ fun t ht =>
    (List.mem_append.mp ht).imp_right fun h1 => by rw [List.mem_singleton.mp h1]; exact ⟨hr, rfl, rfl, rfl, rfl⟩

theorem sinv_prio {s : St} (h : SInv s) (id : String) (i : Nat) : SInv (setPrio s id i) := by
  refine sinv_frame h rfl (Int.le_refl _) (Nat.le_refl _) (fun y hy => ?_) timers_same
  obtain ⟨x, hx, rfl⟩ := List.mem_map.mp hy
  exact ⟨x, hx, by split <;> exact ⟨rfl, rfl, rfl, rfl⟩⟩

theorem sinv_advance {s : St} (h : SInv s) (dt : Nat) : SInv { s with now := s.now + dt } :=
  sinv_frame h rfl (by show s.now ≤ s.now + dt; omega) (Nat.le_refl _) eps_same timers_same

theorem sinv_moveOut {s : St} (h : SInv s) (p : Ep → Bool) : SInv (moveOut s p) :=
  sinv_frame h rfl (Int.le_refl _) (Nat.le_refl _) (fun y hy => ⟨y, (List.mem_filter.mp hy).1, rfl, rfl, rfl, rfl⟩) timers_same

theorem sinv_dropTimer {s : St} (h : SInv s) (tid : Nat) : SInv (dropTimer s tid) :=
  sinv_frame h rfl (Int.le_refl _) (Nat.le_refl _) eps_same
    (fun t ht => .inl ⟨t, (List.mem_filter.mp ht).1, rfl, rfl, rfl⟩)

theorem sinv_setStateOrphan {s : St} (h : SInv s) (o : Ep) (st : Status) : SInv (setStateOrphan s o st) :=
  sinv_frame h rfl (Int.le_refl _) (Nat.le_refl _) eps_same (fun t' ht' => by
    obtain ⟨t0, ht0, e1, e2, e3, -⟩ := mem_stopOpt (show t' ∈ stopOpt s.now s.timers o.timer from ht')
    exact .inl ⟨t0, ht0, e1, e2, e3⟩)

theorem sinv_add {s : St} (h : SInv s) (y : Ep) (tms : List Timer) (n : Nat) (hobj : y.obj = s.nextObj)
    (hlc : y.lastChange = none)
    (hts : ∀ t ∈ tms, t ∈ s.timers ∨
      (0 < s.r ∧ (∃ id, t.kind = .recovery y.obj id none) ∧ y.status = .recovering ∧ y.timer = some t.tid)) :
    SInv { s with eps := s.eps ++ [y], timers := tms, nextObj := s.nextObj + 1, nextTid := n } := by
  have hem : ∀ x ∈ s.eps ++ [y], x ∈ s.eps ∨ x = y := fun x hx =>
    (List.mem_append.mp hx).imp_right List.mem_singleton.mp
  refine sinv_of_pairs (fun x hx tl hl => ?_) (fun t ht obj id stamp hk => ?_)
    (fun t ht obj id stamp hk x hx hxo => ?_) (fun x hx => ?_)
  · rcases hem x hx with h1 | rfl
    · exact h.lcNow x h1 tl hl
    · rw [hlc] at hl; cases hl
  · rcases hts t ht with h1 | ⟨hr, ⟨id', hk'⟩, -, -⟩
    · obtain ⟨a, b, c⟩ := h.tmr t h1 obj id stamp hk
      exact ⟨a, Nat.lt_succ_of_lt b, c⟩
    · cases hk'.symm.trans hk
      exact ⟨hr, hobj ▸ Nat.lt_succ_self _, fun ts hts => by cases hts⟩
  · rcases hts t ht with h1 | ⟨-, ⟨id', hk'⟩, hrec, htm⟩
    · rcases hem x hx with h2 | rfl
      · exact sinv_pair h h1 hk h2 hxo
      · -- an old timer's object is older than `y`
        exact absurd (hxo ▸ (h.tmr t h1 obj id stamp hk).2.1) (hobj ▸ Nat.lt_irrefl _)
    · cases hk'.symm.trans hk
      rcases hem x hx with h2 | rfl
      · exact absurd (h.objLt x h2) (hxo ▸ hobj ▸ Nat.lt_irrefl _)
      · exact ⟨fun _ => ⟨hrec, htm⟩, fun ts hts => by cases hts⟩
  · rcases hem x hx with h1 | rfl
    · exact Nat.lt_succ_of_lt (h.objLt x h1)
    · exact hobj ▸ Nat.lt_succ_self _

theorem sinv_newEndpoint {s : St} (h : SInv s) (id : String) (prio : Nat) : SInv (addNew s id prio) := by
  rw [addNew_eq]
  by_cases hr : s.r > 0
  · rw [if_pos hr]
    exact sinv_add h _ _ _ rfl rfl fun t ht =>
      (List.mem_append.mp ht).imp_right fun h1 => by rw [List.mem_singleton.mp h1]; exact ⟨hr, ⟨id, rfl⟩, rfl, rfl⟩
  · rw [if_neg hr]
    exact sinv_add h _ _ _ rfl rfl fun _ ht => .inl ht

theorem sinv_muc {s : St} (h : SInv s) : SInv (maybeUpdateCurrent s) := by
  obtain ⟨o, -, hm⟩ := muc_spec s
  rw [hm]
  cases o with
  | none => exact { h with }
  | some t =>
    refine sinv_frame h rfl (Int.le_refl _) (Nat.le_refl _) eps_same fun t' ht' => ?_
    rcases List.mem_append.mp ht' with h1 | h1
    · exact .inl ⟨t', h1, rfl, rfl, rfl⟩
    · exact .inr (by rw [List.mem_singleton.mp h1])

theorem sinv_report {s s1 : St} {id : String} {a : Bool} (h : SInv s) (hb : Base s) (ht : TInv s none)
    (hr : Report s id a s1) : SInv s1 := by
  cases hr with
  | noop => exact h
  | up e hf | down e hf => exact sinv_setStateEp h ht.tidInj hb.idInj ht.objId (findEp_some hf).1 _
  | window e hf _ hr =>
    exact sinv_enterRecovery h (by have := hb.rnn; omega) ht.tidInj hb.idInj ht.objId (findEp_some hf).1

theorem sinv_fireSwitch {s : St} (h : SInv s) : SInv (fireSwitch s) := by
  rcases fireSwitch_spec s with ⟨he, -⟩ | ⟨e, -, -, he, -⟩ <;> rw [he]
  · exact h
  · exact { h with }

theorem removeTimer_inj {ts : List Timer} (hinj : ∀ a ∈ ts, ∀ b ∈ ts, a.tid = b.tid → a = b) (tid : Nat) :
    ∀ a ∈ removeTimer ts tid, ∀ b ∈ removeTimer ts tid, a.tid = b.tid → a = b :=
  fun a ha b hb => hinj a (List.mem_filter.mp ha).1 b (List.mem_filter.mp hb).1

theorem sinv_init {r d : Int} {l : List String} {s : St} (h : initRaw r d l = some s) : SInv s :=
  initRaw_ind (P := fun s _ => SInv s) h
    (fun _ _ => by constructor <;> exact fun _ h => absurd h List.not_mem_nil)
    (fun _ _ x hs => sinv_newEndpoint (sinv_moveOut hs _) x _)

theorem sinv_step {s : St} (h : SInv s) (hi : Inv s) (ht : TInv s none) (op : Op) : SInv (stepRaw s op).1 := by
  have hs := step_spec s op
  generalize (stepRaw s op).1 = s' at hs ⊢
  cases hs with
  | idle => exact h
  | advance dt => exact sinv_advance h dt
  | report e a s1 hr => exact sinv_muc (sinv_report h hi.toBase ht hr)
  | list l =>
    rw [dropObsolete_eq]
    exact sinv_muc (addOrUpdate_ind' (P := SInv) (fun _ x i h _ => sinv_newEndpoint h x i)
      (fun _ x i h => sinv_prio h x i) l _ (sinv_moveOut h _))
  | switch tid => exact sinv_fireSwitch (sinv_dropTimer h tid)
  | stale tid => exact sinv_dropTimer h tid
  | expire tid t e _ _ _ _ hfe =>
    exact sinv_muc (sinv_setStateEp (sinv_dropTimer h tid) (removeTimer_inj ht.tidInj tid) hi.idInj ht.objId (findEp_some hfe).1 _)
  | expireOrphan tid t o => exact sinv_muc (sinv_setStateOrphan (sinv_dropTimer h tid) o _)

theorem reach_sinv {s : St} (h : Reach s) : SInv s := by
  induction h with
  | initRaw _ _ hi => exact sinv_init hi
  | stepRaw op hr ih => exact sinv_step ih (reach_inv hr) (reach_tinv hr) op

/-! ## what each operation does to the `available` flags -/

theorem addOrUpdate_av (l : List String) : ∀ (s : St) (i : Nat), ∀ y ∈ (addOrUpdate s l i).eps,
    (∃ x ∈ s.eps, y.id = x.id ∧ y.status = x.status) ∨
    (findEp s.eps y.id = none ∧ y.status ≠ .available ∧ y.id ∈ l) := by
  induction l with
  | nil => intro s i y hy; exact Or.inl ⟨y, by simpa [addOrUpdate] using hy, rfl, rfl⟩
  | cons id rest ih =>
    intro s i y hy
    rw [addOrUpdate_cons] at hy
    cases hf : findEp s.eps id with
    | none =>
      rw [hf] at hy
      have heps := (addNew_fields s id i).1
      rcases ih _ _ y hy with ⟨x, hx, e1, e2⟩ | ⟨hn, hs, hm⟩
      · rcases List.mem_append.mp (heps ▸ hx) with hx | hx
        · exact Or.inl ⟨x, hx, e1, e2⟩
        · -- `y` is the endpoint just added
          rw [List.mem_singleton.mp hx] at e1 e2
          rw [newEndpoint_id] at e1
          exact Or.inr ⟨e1 ▸ hf, e2 ▸ newEndpoint_status s id i, e1 ▸ List.mem_cons_self⟩
      · refine Or.inr ⟨findEp_none.mpr fun x hx => findEp_none.mp hn x ?_, hs, List.mem_cons_of_mem _ hm⟩
        rw [heps]; exact List.mem_append.mpr (Or.inl hx)
    | some e0 =>
      rw [hf] at hy
      have hid : ∀ x : Ep, (if x.id == id then { x with prio := i } else x).id = x.id := fun x => by split <;> rfl
      rcases ih _ _ y hy with ⟨x, hx, e1, e2⟩ | ⟨hn, hs, hm⟩
      · obtain ⟨x0, hx0, rfl⟩ := List.mem_map.mp hx
        exact Or.inl ⟨x0, hx0, e1.trans (hid x0), by rw [e2]; split <;> rfl⟩
      · refine Or.inr ⟨findEp_none.mpr fun x hx => ?_, hs, List.mem_cons_of_mem _ hm⟩
        exact hid x ▸ findEp_none.mp hn _ (List.mem_map_of_mem hx)

theorem setEndpoints_av (s : St) (l : List String) : ∀ y ∈ (addOrUpdate (dropObsolete s l) l 0).eps,
    (∃ x ∈ s.eps, l.contains x.id = true ∧ y.id = x.id ∧ y.status = x.status) ∨
    (findEp s.eps y.id = none ∧ y.status ≠ .available) := by
  intro y hy
  rcases addOrUpdate_av l _ 0 y hy with ⟨x, hx, e1, e2⟩ | ⟨hn, hs, hm⟩
  · exact .inl ⟨x, (List.mem_filter.mp hx).1, (List.mem_filter.mp hx).2, e1, e2⟩
  · -- an old entry of that name would have stayed
    refine .inr ⟨findEp_none.mpr fun x hx hxid => findEp_none.mp hn x (List.mem_filter.mpr ⟨hx, ?_⟩) hxid, hs⟩
    rw [hxid]; exact List.contains_iff_mem.mpr hm

theorem fire_av {s : St} (hs : SInv s) (hid : ∀ a ∈ s.eps, ∀ b ∈ s.eps, a.id = b.id → a = b) (tid : Nat) :
    ∀ y ∈ (opFire s tid).1.eps, ∃ x ∈ s.eps, y.id = x.id ∧ (y.status = .available ↔ x.status = .available) := by
  intro y hy
  rcases opFire_eps s tid with heq | ⟨t, ht, e, he, -, -, hk, heq⟩
  · exact ⟨y, heq ▸ hy, rfl, Iff.rfl⟩
  · -- the timer carries the current stamp of `e`, so `e` is recovering: not available before or after
    have hrec := (hs.cur t ht _ _ _ hk e he rfl rfl).1
    obtain rfl | ⟨hy', -⟩ := mem_updId_of_inj hid he (heq ▸ hy)
    · exact ⟨e, he, rfl, fun h => (by cases h), fun h => by rw [hrec] at h; cases h⟩
    · exact ⟨y, hy', rfl, Iff.rfl⟩

theorem sea_av {s : St} (hid : ∀ a ∈ s.eps, ∀ b ∈ s.eps, a.id = b.id → a = b) (id : String) (a : Bool) :
    ∀ y ∈ (setEndpointAvailability s id a).eps, ∃ x ∈ s.eps, y.id = x.id ∧
      (x.id = id → (y.status = .available ↔ a = true)) ∧ (x.id ≠ id → y.status = x.status) := by
  obtain ⟨F, heq, hF, hav, hoff, -⟩ := report_table (sea_spec s id a)
  intro y hy
  obtain ⟨x, hx, rfl⟩ := List.mem_map.mp (heq ▸ hy)
  exact ⟨x, hx, (hF x).1, fun hxid => hav x (hxid ▸ findEp_of_mem hid hx), fun hxid => by rw [hoff x hxid]⟩

/-! ## the history record: the last availability report per endpoint since it was (re)added -/

/-- how an operation changes the record: a report for an endpoint of the list is noted; replacing the
    list keeps the notes of the endpoints that stay and forgets the others (a re-added endpoint starts
    without a report); clock advances and timers change nothing -/
def recordReport (s : St) (ρ : String → Option Bool) : Op → String → Option Bool
  | .setAvail e a => fun x => if x == e && (findEp s.eps e).isSome then some a else ρ x
  | .setEndpoints l => fun x => if l.isEmpty then ρ x else if l.contains x && (findEp s.eps x).isSome then ρ x else none
  | _ => ρ

/-- reachable states together with the history record -/
inductive ReachR : St → (String → Option Bool) → Prop where
  | initRaw {r d : Int} {l : List String} {s : St} : 0 ≤ r → 0 ≤ d → initRaw r d l = some s → ReachR s (fun _ => none)
  | stepRaw {s : St} {ρ : String → Option Bool} (op : Op) : ReachR s ρ → ReachR (stepRaw s op).1 (recordReport s ρ op)

theorem ReachR.reach {s : St} {ρ : String → Option Bool} (h : ReachR s ρ) : Reach s := by
  induction h with
  | initRaw hr hd hi => exact Reach.initRaw hr hd hi
  | stepRaw op _ ih => exact Reach.stepRaw op ih

/-- **C13 ("known to be available")** in every reachable state, after any history of reports, list
    replacements, clock advances and timer firings (stale, stopped or late ones included): an endpoint
    of the list has status `available` exactly when the last report for it since it was (re)added said
    "available" -/
theorem status_matches_reports {s : St} {ρ : String → Option Bool} (h : ReachR s ρ) :
    ∀ e ∈ s.eps, (e.status = .available ↔ ρ e.id = some true) := by
  induction h with
  | initRaw _ _ hi => exact fun e he => ⟨fun h => absurd h (init_not_available hi e he), fun h => by cases h⟩
  | @stepRaw s ρ op hr ih =>
    have hid := (reach_inv hr.reach).idInj
    intro y hy
    cases op with
    | setAvail id a =>
      obtain ⟨x, hx, e1, e2, e3⟩ := sea_av hid id a y (muc_eps _ ▸ hy)
      show y.status = .available ↔ (if (y.id == id && (findEp s.eps id).isSome) = true then some a else ρ y.id) = some true
      rw [e1]
      by_cases hxid : x.id = id
      · rw [if_pos (by rw [findEp_isSome_of_mem hx hxid, beq_iff_eq.mpr hxid]; rfl), Option.some.injEq]
        exact e2 hxid
      · rw [if_neg (by rw [beq_false_of_ne hxid]; exact Bool.false_ne_true), e3 hxid]
        exact ih x hx
    | setEndpoints l =>
      show y.status = .available ↔ (if l.isEmpty = true then ρ y.id else
        if (l.contains y.id && (findEp s.eps y.id).isSome) = true then ρ y.id else none) = some true
      simp only [stepRaw, opSetEndpoints] at hy
      by_cases hl : l.isEmpty = true
      · rw [if_pos hl] at hy ⊢; exact ih y hy
      · rw [if_neg hl, muc_eps _] at hy
        rw [if_neg hl]
        rcases setEndpoints_av s l y hy with ⟨x, hx, hc, e1, e2⟩ | ⟨hn, hs⟩
        · rw [e1, e2, if_pos (by rw [hc, findEp_isSome_of_mem hx rfl]; rfl)]
          exact ih x hx
        · rw [hn, if_neg (by rw [Option.isSome_none, Bool.and_false]; exact Bool.false_ne_true)]
          exact ⟨fun h => absurd h hs, fun h => by cases h⟩
    | advance dt => exact ih y hy
    | fire tid =>
      obtain ⟨x, hx, e1, e2⟩ := fire_av (reach_sinv hr.reach) hid tid y hy
      show y.status = .available ↔ ρ y.id = some true
      rw [e2, e1]; exact ih x hx

def runR (s : St) (ρ : String → Option Bool) : List Op → St × (String → Option Bool)
  | [] => (s, ρ)
  | op :: ops => runR (stepRaw s op).1 (recordReport s ρ op) ops

theorem reachR_runR {s : St} {ρ : String → Option Bool} (h : ReachR s ρ) (ops : List Op) :
    ReachR (runR s ρ ops).1 (runR s ρ ops).2 := by
  induction ops generalizing s ρ with
  | nil => exact h
  | cons op ops ih => exact ih (ReachR.stepRaw op h)

theorem status_matches_reports_run {r d : Int} {l : List String} {s0 : St} (hr : 0 ≤ r) (hd : 0 ≤ d)
    (hi : initRaw r d l = some s0) (ops : List Op) :
    ∀ e ∈ (runR s0 (fun _ => none) ops).1.eps,
      (e.status = .available ↔ (runR s0 (fun _ => none) ops).2 e.id = some true) :=
  status_matches_reports (reachR_runR (ReachR.initRaw hr hd hi) ops)

/-- a history of the kind the theorem is about (test, by evaluation): `a` goes down and up again at one
    clock reading, the clock passes the recovery timeout, and the three timers armed so far (two by the
    constructor, one by the "down" report) are asked to fire. Each was stopped before it was due by the report
    that ended its window, so none is left and every `.fire` is `notFirable`: `a` is still available and
    still current -/
def exOps : List Op := [.setAvail "a" true, .setAvail "b" true, .setAvail "a" false, .setAvail "a" true,
                         .advance 11, .fire 0, .fire 1, .fire 2]
def exRun : Option (St × (String → Option Bool)) := (initRaw 10 0 ["a", "b"]).map fun s0 => runR s0 (fun _ => none) exOps
example : (exRun.map fun r => (r.1.current, r.2 "a", r.1.eps.map fun e => (e.id, e.status))) =
    some ("a", some true, [("a", .available), ("b", .available)]) := by decide

/-- **C14** an endpoint that went recovering at `t0` (an available endpoint reported unavailable) can be
    made unavailable by a timer only from `t0 + RecoveryTimeout` on: whichever timer fires — its own,
    a stale one of an earlier window, one that was stopped too late — before that moment the endpoint
    is still recovering afterwards -/
theorem recovery_not_cut_short {s : St} (h : Reach s) (tid : Nat) :
    ∀ x ∈ s.eps, x.status = .recovering → ∀ t0, x.lastChange = some t0 →
    ∀ y ∈ (opFire s tid).1.eps, y.id = x.id → y.status = .unavailable → t0 + s.r ≤ s.now := by
  have hs := reach_sinv h
  have hid := (reach_inv h).idInj
  intro x hx hrec t0 hlc y hy hyid hyun
  -- an entry of the old table named like `x` is `x`, which is recovering
  have hsame : ∀ y ∈ s.eps, y.id = x.id → y.status ≠ .unavailable := fun y hy hyid => by
    rw [hid y hy x hx hyid, hrec]; simp
  rcases opFire_eps s tid with heq | ⟨t, ht, e, he, -, hdue, hk, heq⟩
  · exact absurd hyun (hsame y (heq ▸ hy) hyid)
  · obtain rfl | ⟨hy', -⟩ := mem_updId_of_inj hid he (heq ▸ hy)
    · -- the timer is the one armed when `x` went recovering: due at `t0 + r`
      cases hid e he x hx hyid
      have := ((hs.tmr t ht _ _ _ hk).2.2 t0 hlc).1
      omega
    · exact absurd hyun (hsame y hy' hyid)

end GcpVerif.ME
