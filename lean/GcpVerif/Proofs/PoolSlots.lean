/-
Slots and pool connections (invariants for C01, C03, C04, C07, C08).

`Half`, without any assumption: the slot table points at slots that hold exactly that connection,
distinct slots hold distinct connections, replacement connections sit in no slot.
`Bij`, `Pool1`, under gRPC's side of the contract — a Shutdown report is delivered only for a
connection the balancer has removed (`contractOk`): every slot's connection is in the slot table, and
the pool stays within `maxSize`.  Known finding K6 is what happens outside the contract.
-/
import GcpVerif.Proofs.PoolTables
namespace GcpVerif.Pool

/-- the connection currently held by a slot -/
def subAt (s : St) (slot : Slot) : Option Sc := (s.refs[slot]?).map (·.subConn)

structure Half (s : St) : Prop where
  refOf : ∀ sc slot, lookup s.scRefs sc = some slot → subAt s slot = some sc
  inj : ∀ i j sc, subAt s i = some sc → subAt s j = some sc → i = j
  subFresh : ∀ slot sc, subAt s slot = some sc → sc < s.nextSc
  repNot : ∀ sc ∈ keys s.refreshingMap, ∀ slot, subAt s slot ≠ some sc

structure Bij (s : St) : Prop where
  slotOf : ∀ slot sc, subAt s slot = some sc → lookup s.scRefs sc = some slot
  refOf : ∀ sc slot, lookup s.scRefs sc = some slot → subAt s slot = some sc
  lenEq : s.scRefs.length = s.refs.length

theorem subAt_lt {s : St} {slot : Slot} {sc : Sc} (h : subAt s slot = some sc) : slot < s.refs.length := by
  unfold subAt at h
  cases hg : s.refs[slot]? with
  | none => rw [hg] at h; cases h
  | some r => exact (List.getElem?_eq_some_iff.mp hg).1

theorem getRef_subAt {s : St} {slot : Slot} {r : RefSt} (hg : getRef s slot = some r) : subAt s slot = some r.subConn :=
  congrArg (Option.map RefSt.subConn) hg

theorem getRef_of_subAt {s : St} {slot : Slot} {sc : Sc} (h : subAt s slot = some sc) :
    ∃ r, getRef s slot = some r ∧ r.subConn = sc := Option.map_eq_some_iff.mp h

theorem subAt_congr {s s' : St} (h : s'.refs.map (·.subConn) = s.refs.map (·.subConn)) (j : Slot) :
    subAt s' j = subAt s j :=
  List.getElem?_map.symm.trans ((congrArg (·[j]?) h).trans List.getElem?_map)

theorem subAt_addConn (s : St) (j : Slot) :
    subAt s.addConn j = if s.refs.length = j then some s.nextSc else subAt s j := by
  show ((s.refs ++ [_])[j]?).map _ = _
  rw [List.getElem?_append]
  by_cases hlt : j < s.refs.length
  · rw [if_pos hlt, if_neg (Nat.ne_of_gt hlt)]; rfl
  · rw [if_neg hlt, List.getElem?_singleton]
    by_cases he : s.refs.length = j
    · rw [if_pos he, if_pos (by rw [he, Nat.sub_self])]; rfl
    · have hgt : s.refs.length < j := Nat.lt_of_le_of_ne (Nat.le_of_not_lt hlt) he
      rw [if_neg he, if_neg (Nat.sub_ne_zero_of_lt hgt), subAt, List.getElem?_eq_none (Nat.le_of_lt hgt)]

theorem subAt_swapped {s : St} {slot : Slot} {r : RefSt} (hg : getRef s slot = some r) (sc old : Sc) (j : Slot) :
    subAt (s.swapped sc slot old) j = if slot = j then some sc else subAt s j := by
  simp only [subAt, St.swapped, List.getElem?_modify]
  by_cases hj : slot = j
  · subst hj
    unfold getRef at hg
    simp [hg]
  · cases s.refs[j]? <;> simp [hj]

theorem half_of_sub {s s' : St} (h : Half s)
    (e1 : ∀ sc slot, lookup s'.scRefs sc = some slot → lookup s.scRefs sc = some slot)
    (e2 : s'.refs.map (·.subConn) = s.refs.map (·.subConn)) (e3 : s.nextSc ≤ s'.nextSc)
    (e4 : ∀ sc ∈ keys s'.refreshingMap, sc ∈ keys s.refreshingMap ∨ s.nextSc ≤ sc) : Half s' := by
  have e2 := subAt_congr e2
  constructor
  · intro sc slot hl; rw [e2]; exact h.refOf sc slot (e1 sc slot hl)
  · intro i j sc hi hj; rw [e2] at hi hj; exact h.inj i j sc hi hj
  · intro slot sc hs; rw [e2] at hs; exact Nat.lt_of_lt_of_le (h.subFresh slot sc hs) e3
  · intro sc hsc slot hs
    rw [e2] at hs
    exact (e4 sc hsc).elim (fun hk => h.repNot sc hk slot hs) (Nat.not_le.mpr (h.subFresh slot sc hs))

theorem half_frame {s : St} (h : Half s) {refs : List RefSt} (e : refs.map (·.subConn) = s.refs.map (·.subConn))
    {cfgIn cfg addrs nReady nConn nTF aggr affinity fallback scStates rr picker failN scAddrs removed published now calls
    waiters held} :
    Half { s with refs, cfgIn, cfg, addrs, nReady, nConn, nTF, aggr, affinity, fallback, scStates, rr, picker, failN, scAddrs,
                  removed, published, now, calls, waiters, held } :=
  half_of_sub h (fun _ _ hl => hl) e (Nat.le_refl _) fun _ => Or.inl

theorem Half.exists_slot {s : St} (h : Half s) {sc : Sc} (hk : sc ∈ keys s.scRefs) :
    ∃ slot, lookup s.scRefs sc = some slot ∧ subAt s slot = some sc := by
  obtain ⟨slot, hl⟩ := exists_lookup_of_mem_keys hk
  exact ⟨slot, hl, h.refOf sc slot hl⟩

theorem half_set {s s' : St} (h : Half s) {j0 : Slot} {c : Sc}
    (hsub : ∀ j, subAt s' j = if j0 = j then some c else subAt s j) (hnew : ∀ j, subAt s j ≠ some c)
    (hR : ∀ x j, lookup s'.scRefs x = some j → (x = c ∧ j = j0) ∨ (lookup s.scRefs x = some j ∧ j0 ≠ j))
    (hc : c < s'.nextSc) (hn : s.nextSc ≤ s'.nextSc)
    (hF : ∀ x ∈ keys s'.refreshingMap, x ≠ c ∧ x ∈ keys s.refreshingMap) : Half s' := by
  constructor
  · intro x j hl
    rw [hsub]
    rcases hR x j hl with ⟨rfl, rfl⟩ | ⟨hl, hj⟩
    · exact if_pos rfl
    · rw [if_neg hj]; exact h.refOf x j hl
  · intro i j x hi hj
    rw [hsub] at hi hj
    split at hi <;> split at hj
    · rename_i h1 h2; exact h1.symm.trans h2
    · cases hi; exact absurd hj (hnew j)
    · cases hj; exact absurd hi (hnew i)
    · exact h.inj i j x hi hj
  · intro j x hs
    rw [hsub] at hs
    split at hs
    · cases hs; exact hc
    · exact Nat.lt_of_lt_of_le (h.subFresh j x hs) hn
  · intro x hx j hs
    rw [hsub] at hs
    split at hs
    · exact (hF x hx).1 (Option.some.inj hs).symm
    · exact h.repNot x (hF x hx).2 j hs

theorem half_addConn {s : St} (t : Tables s) (h : Half s) : Half s.addConn := by
  refine half_set (j0 := s.refs.length) (c := s.nextSc) h (fun j => ?_)
    (fun j hs => Nat.lt_irrefl _ (h.subFresh j _ hs)) (fun x j hl => ?_) (Nat.lt_succ_self _) (Nat.le_succ _)
    (fun x hx => ⟨fun e => Nat.lt_irrefl _ (e ▸ (t.freshF x hx).1), hx⟩)
  · exact subAt_addConn s j
  · rw [lookup_addConn_scRefs] at hl
    by_cases hx : s.nextSc = x
    · rw [if_pos hx] at hl; exact Or.inl ⟨hx.symm, (Option.some.inj hl).symm⟩
    · rw [if_neg hx] at hl; exact Or.inr ⟨hl, Nat.ne_of_gt (subAt_lt (h.refOf x j hl))⟩

theorem half_swapped {s : St} (t : Tables s) (h : Half s) {sc : Sc} {slot : Slot} {r : RefSt}
    (hl : lookup s.refreshingMap sc = some slot) (hg : getRef s slot = some r) : Half (s.swapped sc slot r.subConn) := by
  have hrep : sc ∈ keys s.refreshingMap := mem_keys_of_lookup hl
  refine half_set h (subAt_swapped hg sc r.subConn) (h.repNot sc hrep) (fun x j hlx => ?_) (t.freshF sc hrep).1
    (Nat.le_refl _) (fun x hx => (mem_keys_erase_iff.mp hx).symm)
  rw [lookup_swapped_scRefs] at hlx
  by_cases hx : sc = x
  · rw [if_pos hx] at hlx; exact Or.inl ⟨hx.symm, (Option.some.inj hlx).symm⟩
  · by_cases hx2 : r.subConn = x
    · rw [if_neg hx, if_pos hx2] at hlx; cases hlx
    · -- `x` sits in another slot than the old connection
      rw [if_neg hx, if_neg hx2] at hlx
      exact Or.inr ⟨hlx, fun e => hx2 (Option.some.inj ((getRef_subAt hg).symm.trans (e ▸ h.refOf x j hlx)))⟩

theorem half_recorded {s : St} (h : Half s) (sc : Sc) (oldS st : CState) : Half (s.recorded sc oldS st) :=
  half_of_sub h (fun _ _ => lookup_recorded_scRefs) rfl (Nat.le_refl _) fun _ => Or.inl

theorem half_stage {s0 s s' : St} {op : Op} (st : Stage s0 op s s') (t : Tables s) (h : Half s) : Half s' := by
  cases st with
  | addConn => exact half_addConn t h
  | startRefresh _ _ _ slot =>
    -- the id of the replacement is the allocation counter
    exact half_of_sub h (fun _ _ hl => hl) (map_modify_of (·.subConn) (by intro; rfl) _ _) (Nat.le_succ _)
      fun x hx => (mem_keys_insert.mp hx).elim (fun e => Or.inr (Nat.le_of_eq e.symm)) Or.inl
  | swap sc _ slot r hl hg => exact half_swapped t h hl hg
  | record sc st _ oldS => exact half_recorded h sc oldS st
  | publish sc st order oldS => exact half_frame (half_recorded h sc oldS st) rfl
  | place | ctxDone | wake | completeCall | detReset | deInc =>
    exact half_frame h (map_modify_of (·.subConn) (by intro; rfl) _ _)
  | bindAll _ _ ks r => exact half_frame h (bindAll_refs_map (·.subConn) (fun _ _ => rfl) _ ks s)
  | unbind => exact half_frame h (unbind_refs_map (·.subConn) (fun _ _ => rfl) s _)
  | _ => exact half_frame h rfl

theorem half_init (ci : CfgInput) : Half (init ci) :=
  ⟨nofun, nofun, nofun, nofun⟩

/-- `Tables` and `Half` hold in every reachable state (no assumption about gRPC's reports) -/
theorem th_run (ci : CfgInput) (ops : List Op) : Tables (run (init ci) ops) ∧ Half (run (init ci) ops) :=
  ⟨tables_run ci ops, run_with_tables half_init half_stage ci ops⟩

/-! ### `Bij` and `Pool1`, under the contract -/

/-- gRPC reports Shutdown only for a connection the balancer has already removed -/
def contractOk (s : St) : Op → Prop
  | .scs sc .shutdown _ => lookup s.scStates sc = none
  | _ => True

/-- every operation of the history respects gRPC's contract in the state it is applied to -/
def RunOk : St → List Op → Prop
  | _, [] => True
  | s, op :: ops => contractOk s op ∧ RunOk (step s op).1 ops

structure Pool1 (ci : CfgInput) (s : St) : Prop where
  cin : s.cfgIn = ci
  bij : Bij s
  tab : Tables s
  cfgOk : s.cfg = none ∨ s.cfg = some (initialCfg s.cfgIn)
  size : (initialCfg s.cfgIn).min ≤ (initialCfg s.cfgIn).max → s.scRefs.length ≤ (initialCfg s.cfgIn).max

variable {ci : CfgInput}

theorem initialCfg_max_pos (ci : CfgInput) : 1 ≤ (initialCfg ci).max := by
  cases ci with
  | given c =>
    simp only [initialCfg, effective]
    split
    · decide
    · rename_i h; have : c.max ≠ 0 := by simpa using h
      omega
  | absent => decide

theorem half_of_bij {s : St} (t : Tables s) (h : Bij s) : Half s := by
  have hk : ∀ {j sc}, subAt s j = some sc → sc ∈ keys s.scRefs := fun hs => mem_keys_of_lookup (h.slotOf _ _ hs)
  refine ⟨h.refOf, fun i j sc hi hj => ?_, fun j sc hs => ?_, fun sc hsc j hs => ?_⟩
  · exact Option.some.inj ((h.slotOf i sc hi).symm.trans (h.slotOf j sc hj))
  · exact t.freshS sc ((t.keysEq sc).mpr (hk hs))
  · exact t.rep_not_key hsc (hk hs)

theorem Half.slotOf {s : St} (h : Half s) {slot : Slot} {sc : Sc} (hs : subAt s slot = some sc)
    (hk : sc ∈ keys s.scRefs) : lookup s.scRefs sc = some slot := by
  obtain ⟨j, hj, hs'⟩ := h.exists_slot hk
  rw [hj, h.inj j slot sc hs' hs]

theorem not_shutdown_of_contract {s0 s : St} {sc : Sc} {st oldS : CState} {order : List Slot}
    (hct : contractOk s0 (.scs sc st order)) (hsd : st = .shutdown → s = s0) (hst : stateOf s sc = some oldS) :
    st ≠ .shutdown := by
  intro he
  subst he
  rw [hsd rfl, show stateOf s0 sc = none from hct] at hst
  cases hst

theorem bij_of_half {s : St} (h : Half s) (hk : ∀ j x, subAt s j = some x → x ∈ keys s.scRefs)
    (hl : s.scRefs.length = s.refs.length) : Bij s :=
  ⟨fun j x hs => h.slotOf hs (hk j x hs), h.refOf, hl⟩

theorem Bij.mem_keys {s : St} (h : Bij s) {j : Slot} {x : Sc} (hs : subAt s j = some x) : x ∈ keys s.scRefs :=
  mem_keys_of_lookup (h.slotOf j x hs)

theorem bij_frame {s : St} (h : Bij s) {scRefs : List (Sc × Slot)} {refs : List RefSt} (e1 : scRefs = s.scRefs)
    (e2 : refs.map (·.subConn) = s.refs.map (·.subConn))
    {cfgIn cfg addrs nReady nConn nTF aggr affinity fallback scStates rr refreshingMap picker nextSc failN scAddrs removed
    published now calls waiters held} :
    Bij { s with scRefs, refs, cfgIn, cfg, addrs, nReady, nConn, nTF, aggr, affinity, fallback, scStates, rr, refreshingMap,
                 picker, nextSc, failN, scAddrs, removed, published, now, calls, waiters, held } := by
  subst e1
  have e := subAt_congr (s := s) (s' := { s with refs }) e2
  exact ⟨fun slot sc hs => h.slotOf slot sc (e slot ▸ hs), fun sc slot hl => (e slot).trans (h.refOf sc slot hl),
    h.lenEq.trans (length_of_map e2).symm⟩

theorem bij_addConn {s : St} (t : Tables s) (h : Bij s) : Bij s.addConn := by
  refine bij_of_half (half_addConn t (half_of_bij t h)) (fun j x hs => mem_keys_insert.mpr ?_) ?_
  · rw [subAt_addConn] at hs
    split at hs
    · exact Or.inl (Option.some.inj hs).symm
    · exact Or.inr (h.mem_keys hs)
  · rw [length_addConn t, h.lenEq]
    exact (List.length_append (bs := [_])).symm

theorem bij_swapped {s : St} (t : Tables s) (h : Bij s) {sc : Sc} {slot : Slot} {r : RefSt}
    (hl : lookup s.refreshingMap sc = some slot) (hg : getRef s slot = some r) : Bij (s.swapped sc slot r.subConn) := by
  have hh := half_of_bij t h
  have hold := getRef_subAt hg
  refine bij_of_half (half_swapped t hh hl hg) (fun j x hs => mem_keys_insert_erase.mpr ?_) ?_
  · rw [subAt_swapped hg] at hs
    split at hs
    · exact Or.inl (Option.some.inj hs).symm
    · rename_i hj
      exact Or.inr ⟨h.mem_keys hs, fun e => hj (hh.inj slot j _ hold (e ▸ hs))⟩
  · -- one entry leaves the slot table and one enters
    show (insert (erase s.scRefs r.subConn) sc slot).length = (s.refs.modify slot _).length
    rw [length_insert_fresh fun hx => t.rep_not_key (mem_keys_of_lookup hl) (mem_keys_erase hx),
      length_erase_mem t.ndR (h.mem_keys hold), List.length_modify]
    exact h.lenEq

theorem bij_stage {s0 s s' : St} {op : Op} (st : Stage s0 op s s') (hct : contractOk s0 op) (t : Tables s)
    (h : Bij s) : Bij s' := by
  cases st with
  | addConn => exact bij_addConn t h
  | swap sc _ slot r hl hg => exact bij_swapped t h hl hg
  | record sc st _ oldS hst hsd | publish sc st _ oldS hst hsd =>
    exact bij_frame h (recorded_live s sc oldS (not_shutdown_of_contract hct hsd hst)).2 rfl
  | startRefresh | place | ctxDone | wake | completeCall | detReset | deInc =>
    exact bij_frame h rfl (map_modify_of (·.subConn) (by intro; rfl) _ _)
  | bindAll _ _ ks r => exact bij_frame h rfl (bindAll_refs_map (·.subConn) (fun _ _ => rfl) r.subConn ks s)
  | unbind call => exact bij_frame h rfl (unbind_refs_map (·.subConn) (fun _ _ => rfl) s call.boundKey)
  | _ => exact bij_frame h rfl rfl

theorem pool1_stage {s0 s s' : St} {op : Op} (st : Stage s0 op s s') (hct : contractOk s0 op) (h : Pool1 ci s) :
    Pool1 ci s' := by
  have hb := bij_stage st hct h.tab h.bij
  have ht := tables_stage st h.tab
  have frame : s'.cfgIn = s.cfgIn → s'.cfg = s.cfg → s'.scRefs.length = s.scRefs.length → Pool1 ci s' := fun e1 e2 e3 =>
    ⟨e1 ▸ h.cin, hb, ht, by rw [e2, e1]; exact h.cfgOk, by rw [e1, e3]; exact h.size⟩
  cases st with
  | setCfg v hc => exact ⟨h.cin, hb, ht, Or.inr rfl, h.size⟩
  | addConn c hc hroom =>
    -- there is room below `minSize ≤ maxSize` or below `maxSize`, which is not 0
    refine ⟨h.cin, hb, ht, h.cfgOk, fun hmm => ?_⟩
    have hce : c = initialCfg s.cfgIn :=
      Option.some.inj (hc.symm.trans (h.cfgOk.resolve_left fun h0 => nomatch hc.symm.trans h0))
    rw [length_addConn h.tab]
    subst hce
    exact hroom.elim (fun hr => Nat.le_trans hr hmm) fun hr =>
      hr.elim (fun h0 => absurd (initialCfg_max_pos s.cfgIn) (by rw [h0]; exact Nat.not_succ_le_zero 0)) id
  | swap =>
    -- as many pool connections as slots, before and after
    exact frame rfl rfl (hb.lenEq.trans ((List.length_modify ..).trans h.bij.lenEq.symm))
  | record sc st _ oldS hst hsd =>
    exact frame rfl rfl (congrArg List.length (recorded_live s sc oldS (not_shutdown_of_contract hct hsd hst)).2)
  | publish sc st _ oldS hst hsd =>
    unfold St.republished at frame
    exact frame rfl rfl (congrArg List.length (recorded_live s sc oldS (not_shutdown_of_contract hct hsd hst)).2)
  | _ => exact frame rfl rfl rfl

theorem Pool1.exists_slot {s : St} (h : Pool1 ci s) {sc : Sc} (hk : sc ∈ keys s.scRefs) :
    ∃ slot, lookup s.scRefs sc = some slot ∧ subAt s slot = some sc :=
  (half_of_bij h.tab h.bij).exists_slot hk

theorem pool1_step {s : St} (h : Pool1 ci s) (op : Op) (hct : contractOk s op) : Pool1 ci (step s op).1 :=
  step_induct op (fun st h => pool1_stage st hct h) h

theorem pool1_init (ci : CfgInput) : Pool1 ci (init ci) := by
  refine ⟨rfl, ⟨?_, ?_, rfl⟩, tables_init ci, Or.inl rfl, fun _ => Nat.zero_le _⟩
  · intro slot sc h; simp [subAt, init] at h
  · intro sc slot h; simp [init, lookup] at h

theorem runOk_induct {P : St → Prop} (hstep : ∀ s op, contractOk s op → P s → P (step s op).1) :
    ∀ (ops : List Op) (s : St), P s → RunOk s ops → P (ops.foldl (fun s op => (step s op).1) s)
  | [], _, h, _ => h
  | op :: ops, s, h, hr => runOk_induct hstep ops _ (hstep s op hr.1 h) hr.2

theorem runOk_append {s : St} {a b : List Op} (h : RunOk s (a ++ b)) :
    RunOk s a ∧ RunOk (a.foldl (fun s op => (step s op).1) s) b := by
  induction a generalizing s with
  | nil => exact ⟨trivial, h⟩
  | cons op a ih =>
    obtain ⟨h1, h2⟩ := h
    obtain ⟨h3, h4⟩ := ih h2
    exact ⟨⟨h1, h3⟩, h4⟩

theorem pool1_run (ci : CfgInput) (ops : List Op) (hok : RunOk (init ci) ops) : Pool1 ci (run (init ci) ops) :=
  runOk_induct (fun _ op hct h => pool1_step h op hct) ops _ (pool1_init ci) hok

/-- **C03** for `minSize ≤ maxSize` (effective values) and a history in which gRPC reports Shutdown
    only for connections the balancer removed, the pool never holds more than `maxSize` channels;
    slots and pool connections are in bijection, so this is also the number of slots ever created -/
theorem size_bounded (ci : CfgInput) (ops : List Op) (hok : RunOk (init ci) ops)
    (hmm : (initialCfg ci).min ≤ (initialCfg ci).max) :
    (run (init ci) ops).scRefs.length ≤ (initialCfg ci).max ∧
    (run (init ci) ops).refs.length = (run (init ci) ops).scRefs.length := by
  have h := pool1_run ci ops hok
  have hs := h.size
  rw [h.cin] at hs
  exact ⟨hs hmm, h.bij.lenEq.symm⟩

/-- every pool connection sits in exactly the slot that holds it, and every slot holds a pool
    connection: a refresh replaces the connection of its slot and nothing else -/
theorem slots_bijective (ci : CfgInput) (ops : List Op) (hok : RunOk (init ci) ops) :
    (∀ slot sc, subAt (run (init ci) ops) slot = some sc → lookup (run (init ci) ops).scRefs sc = some slot) ∧
    (∀ sc slot, lookup (run (init ci) ops).scRefs sc = some slot → subAt (run (init ci) ops) slot = some sc) :=
  ⟨(pool1_run ci ops hok).bij.slotOf, (pool1_run ci ops hok).bij.refOf⟩

/-- non-vacuity: a contract-respecting history (no Shutdown report); the pool holds its one initial channel -/
example : (run (init .absent) [.ccs 1, .scs 0 .ready [0]]).scRefs.length = 1 := by decide +kernel

/-- known finding K6 inside the model: *without* the contract hypothesis the bound fails.  A
    Shutdown report for a pool member with a refresh in flight, a resolver update that re-creates
    the pool, then the replacement's READY: two channels with `maxSize = 1`. -/
def k6cfg : CfgInput := .given { min := 1, max := 1, wm := 100, fb := false, rr := false, uc := 1, ums := 1, methods := true }
def k6ops : List Op := [.ccs 1, .scs 0 .ready [0], .pick 1 0 "plain" .gcp (some 0) (.msg ⟨"", []⟩), .adv 2000001,
  .done 1 .deClient ⟨"", []⟩, .scs 0 .shutdown [], .ccs 1, .scs 1 .ready [0]]
theorem size_bound_needs_contract :
    (run (init k6cfg) k6ops).scRefs.length = 2 ∧ (initialCfg k6cfg).max = 1 ∧ (initialCfg k6cfg).min = 1 := by
  decide +kernel

end GcpVerif.Pool
