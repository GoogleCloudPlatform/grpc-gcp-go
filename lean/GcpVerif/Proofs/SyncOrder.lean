/-
C06 — soundness of the lock-order analysis: if the "held while acquiring" relation extracted from
the sources is certified acyclic (`orderCertified`), then no set of goroutines can be blocked in a
cycle, each waiting for a mutex that the next one holds (in particular no goroutine waits for a
mutex it holds itself).  Proved once for every acquisition table, every number of goroutines and
every assignment of mutex instances to the abstract mutex classes of the table.
-/
import GcpVerif.Model.Sync
import GcpVerif.Generated.Accesses
namespace GcpVerif.Sync

/-- a goroutine blocked in `Lock()` / `RLock()` at an acquisition site; mutex *instances* are numbers,
    `cls` maps an instance to the class the extractor knows it by (gb.mu, ref.mu, …) -/
structure Blocked where
  site : Acquisition
  want : Nat
  held : List Nat

/-- the extractor's may-hold set is sound for this goroutine: whatever it really holds is listed -/
def Blocked.Faithful (cls : Nat → String) (b : Blocked) : Prop :=
  cls b.want = b.site.mu ∧ ∀ i ∈ b.held, cls i ∈ b.site.heldBefore

theorem mem_closeStep {es : List (String × String)} {p : String × String} (h : p ∈ es) : p ∈ closeStep es := by
  unfold closeStep
  rw [List.mem_eraseDups]
  exact List.mem_append_left _ h

theorem mem_closure6 {l : List Acquisition} {p : String × String} (h : p ∈ orderEdges l) : p ∈ closure6 l := by
  unfold closure6
  exact mem_closeStep (mem_closeStep (mem_closeStep (mem_closeStep (mem_closeStep (mem_closeStep h)))))

theorem edge_mem {l : List Acquisition} {a : Acquisition} (ha : a ∈ l) {h : String} (hh : h ∈ a.heldBefore) :
    (h, a.mu) ∈ orderEdges l := by
  unfold orderEdges
  rw [List.mem_eraseDups]
  exact List.mem_flatMap.mpr ⟨a, ha, List.mem_map.mpr ⟨h, hh, rfl⟩⟩

theorem trans_of_closed {es : List (String × String)} (h : transClosed es = true) {a b c : String}
    (h1 : (a, b) ∈ es) (h2 : (b, c) ∈ es) : (a, c) ∈ es := by
  simp only [transClosed, List.all_eq_true, Bool.or_eq_true, Bool.not_eq_true', List.contains_iff_mem] at h
  rcases h (a, b) h1 (b, c) h2 with h' | h'
  · simp at h'
  · exact h'

theorem orderAcyclic_of_certified {l : List Acquisition} (h : orderCertified l = true) : orderAcyclic l = true :=
  (Bool.and_eq_true_iff.1 h).2

theorem irrefl_of_acyclic {l : List Acquisition} (h : orderAcyclic l = true) (a : String) : (a, a) ∉ closure6 l :=
  fun hm => bne_iff_ne.1 (List.all_eq_true.1 h _ hm) rfl

theorem noSelfAcquire_of_acyclic {l : List Acquisition} (h : orderAcyclic l = true) : noSelfAcquire l = true := by
  simp only [noSelfAcquire, List.all_eq_true, Bool.not_eq_true', List.contains_eq_mem, decide_eq_false_iff_not]
  -- a mutex held while it is acquired is a loop of the order
  exact fun a ha hmem => irrefl_of_acyclic h _ (mem_closure6 (edge_mem ha hmem))

/-- **C06 (soundness)** with a certified acquisition order there is no cyclic wait: no goroutines
    `w 0, …, w n = w 0` (n ≥ 1) such that each is blocked at a site of the table, waiting for a mutex
    instance held by the next one.  `n = 1` is the self-deadlock on a non-reentrant mutex. -/
theorem no_wait_cycle (l : List Acquisition) (hcert : orderCertified l = true) (cls : Nat → String)
    (w : Nat → Blocked) (n : Nat) (hn : 0 < n) (hper : w n = w 0)
    (hsite : ∀ i, (w i).site ∈ l) (hf : ∀ i, (w i).Faithful cls)
    (hwait : ∀ i, (w i).want ∈ (w (i + 1)).held) : False := by
  have htr : transClosed (closure6 l) = true := (Bool.and_eq_true_iff.1 hcert).1
  have hedge : ∀ i, ((w i).site.mu, (w (i + 1)).site.mu) ∈ closure6 l := by
    intro i
    have h1 := (hf (i + 1)).2 _ (hwait i)
    rw [(hf i).1] at h1
    exact mem_closure6 (edge_mem (hsite (i + 1)) h1)
  have hpath : ∀ k, ((w 0).site.mu, (w (k + 1)).site.mu) ∈ closure6 l := by
    intro k
    induction k with
    | zero => exact hedge 0
    | succ k ih => exact trans_of_closed htr ih (hedge (k + 1))
  have hloop := hpath (n - 1)
  rw [Nat.sub_add_cancel hn, hper] at hloop
  exact irrefl_of_acyclic (orderAcyclic_of_certified hcert) _ hloop

/-- **C06 (per run)** the acquisition table of the current sources is certified -/
theorem c06_order_certified : orderCertified GcpVerif.Generated.acquisitions = true := by decide +kernel

/-- the certificate is not vacuous: the current table has real "held while acquiring" edges -/
theorem c06_edges_present : (orderEdges GcpVerif.Generated.acquisitions).length ≥ 3 := by decide +kernel

/-- … and a table with a cycle (or a self-acquisition) is rejected -/
example : orderCertified [{ fn := "f", pos := "p", mu := "a", heldBefore := ["b"] },
                          { fn := "g", pos := "q", mu := "b", heldBefore := ["a"] }] = false := by decide +kernel
example : orderCertified [{ fn := "f", pos := "p", mu := "a", heldBefore := ["a"] }] = false := by decide +kernel

end GcpVerif.Sync
