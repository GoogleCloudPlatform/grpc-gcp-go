/-
The invariant of the MultiEndpoint model, the decision table of `maybeUpdateCurrent` (`NextCur`,
`muc_spec`: every fact about `maybeUpdateCurrent` / `nextCur` is a case analysis on its rows), and the
two loops that build the endpoint table, with their induction principles and the invariant `Walked`
that both keep.
-/
import GcpVerif.Proofs.MEBasic
namespace GcpVerif.ME

/-- the part of the invariant that `maybeUpdateCurrent` needs as input -/
structure Base (s : St) : Prop where
  rnn : 0 ≤ s.r
  dnn : 0 ≤ s.d
  nonempty : s.eps ≠ []
  idInj : ∀ a ∈ s.eps, ∀ b ∈ s.eps, a.id = b.id → a = b
  prioInj : ∀ a ∈ s.eps, ∀ b ∈ s.eps, a.prio = b.prio → a.id = b.id

/-- M1, M2, M5 of DESIGN §5 (row C13) -/
structure Inv (s : St) : Prop extends Base s where
  curMem : ∃ c, findEp s.eps s.current = some c
  m5 : ∀ c, findEp s.eps s.current = some c → c.status = .unavailable →
        ∀ e ∈ s.eps, e.status ≠ .available

theorem base_of_eps {s s' : St} (hb : Base s) (he : s'.eps = s.eps) (hr : s'.r = s.r) (hd : s'.d = s.d) : Base s' :=
  ⟨hr ▸ hb.rnn, hd ▸ hb.dnn, he ▸ hb.nonempty, he ▸ hb.idInj, he ▸ hb.prioInj⟩

/-! ### the decision table of `maybeUpdateCurrent` -/

/-- the value of `current` after `maybeUpdateCurrent`, as a function of the table, the old
    current and `d` -/
def nextCur (eps : List Ep) (cur : String) (d : Int) : String :=
  match findEp eps cur, topAvail eps with
  | some _, none => cur
  | some c, some t =>
    if isProtected (some c) (some t) then cur
    else if cur = t.id then cur
    else if d = 0 ∨ c.status = .unavailable then t.id else cur
  | none, some t => t.id
  | none, none => match topOf eps with | some t => t.id | none => cur

theorem addTimer_fields (s : St) (dl : Int) (k : TimerKind) :
    (addTimer s dl k).eps = s.eps ∧ (addTimer s dl k).current = s.current ∧
    (addTimer s dl k).r = s.r ∧ (addTimer s dl k).d = s.d ∧ (addTimer s dl k).now = s.now ∧
    (addTimer s dl k).future = s.future ∧ (addTimer s dl k).orphans = s.orphans := by
  simp [addTimer]

/-- the rows of the table: `NextCur eps cur d n o` says that the row which applies yields `n` for
    `current` and, if `o = some t`, arms the delayed switch to `t` instead of switching -/
inductive NextCur (eps : List Ep) (cur : String) (d : Int) : String → Option Ep → Prop where
  | noAvail (c : Ep) : findEp eps cur = some c → topAvail eps = none → NextCur eps cur d cur none
  | guarded (c t : Ep) : findEp eps cur = some c → topAvail eps = some t →
      c.status = .recovering → c.prio < t.prio → NextCur eps cur d cur none
  | isTop (c t : Ep) : findEp eps cur = some c → topAvail eps = some t → cur = t.id → NextCur eps cur d cur none
  | defer (c t : Ep) : findEp eps cur = some c → topAvail eps = some t →
      isProtected (some c) (some t) = false → cur ≠ t.id → d ≠ 0 → c.status ≠ .unavailable →
      NextCur eps cur d cur (some t)
  | switch (c t : Ep) : findEp eps cur = some c → topAvail eps = some t →
      isProtected (some c) (some t) = false → cur ≠ t.id → (d = 0 ∨ c.status = .unavailable) →
      NextCur eps cur d t.id none
  | gone (t : Ep) : findEp eps cur = none → topAvail eps = some t → NextCur eps cur d t.id none
  | goneNoAvail (t : Ep) : findEp eps cur = none → topAvail eps = none → topOf eps = some t →
      NextCur eps cur d t.id none
  | empty : eps = [] → NextCur eps cur d cur none

theorem isProtected_some {c t : Ep} :
    isProtected (some c) (some t) = true ↔ c.status = .recovering ∧ c.prio < t.prio := by
  simp [isProtected]

theorem isProtected_eq_false {c : Ep} (t : Option Ep) (h : c.status ≠ .recovering) : isProtected (some c) t = false := by
  have : (c.status == Status.recovering) = false := by simpa using h
  cases t <;> simp [isProtected, this]

theorem switchFromTo_eq (s : St) (f : Option Ep) (t : Ep) : switchFromTo s f t =
    if s.current = t.id then s
    else if s.d = 0 ∨ goneOrUnavailable f = true then { s with current := t.id }
    else addTimer { s with future := t.id } s.d .switch := by
  simp only [switchFromTo, beq_iff_eq, Bool.or_eq_true]

theorem muc_spec (s : St) : ∃ o, NextCur s.eps s.current s.d (nextCur s.eps s.current s.d) o ∧
    maybeUpdateCurrent s = match o with
      | none => { s with current := nextCur s.eps s.current s.d }
      | some t => addTimer { s with future := t.id } s.d .switch := by
  rw [maybeUpdateCurrent, nextCur]
  cases hc : findEp s.eps s.current with
  | none =>
    cases ht : topAvail s.eps with
    | some t =>
      refine ⟨none, .gone t hc ht, ?_⟩
      simp only [isProtected, switchFromTo_eq, goneOrUnavailable, or_true, Bool.false_eq_true, ↓reduceIte]
      split
      · rename_i h; rw [← h]
      · rfl
    | none =>
      simp only [isProtected, Bool.false_eq_true, ↓reduceIte]
      cases hto : topOf s.eps with
      | some t => exact ⟨none, .goneNoAvail t hc ht hto, rfl⟩
      | none => exact ⟨none, .empty (topOf_eq_none.mp hto), rfl⟩
  | some c =>
    cases ht : topAvail s.eps with
    | none => exact ⟨none, .noAvail c hc ht, by dsimp only; rw [ite_self]⟩
    | some t =>
      dsimp only
      by_cases hp : isProtected (some c) (some t) = true
      · rw [if_pos hp, if_pos hp]
        exact ⟨none, .guarded c t hc ht (isProtected_some.mp hp).1 (isProtected_some.mp hp).2, rfl⟩
      · rw [if_neg hp, if_neg hp, switchFromTo_eq]
        have hp' : isProtected (some c) (some t) = false := by simpa using hp
        by_cases hct : s.current = t.id
        · rw [if_pos hct, if_pos hct]; exact ⟨none, .isTop c t hc ht hct, rfl⟩
        · rw [if_neg hct, if_neg hct]
          by_cases hd : s.d = 0 ∨ c.status = .unavailable
          · rw [if_pos hd, if_pos (by simpa [goneOrUnavailable] using hd)]
            exact ⟨none, .switch c t hc ht hp' hct hd, rfl⟩
          · rw [if_neg hd, if_neg (by simpa [goneOrUnavailable] using hd)]
            exact ⟨some t, .defer c t hc ht hp' hct (fun h => hd (Or.inl h)) (fun h => hd (Or.inr h)), rfl⟩

/-- the table alone (a state with this table, `current` and delay is all `muc_spec` looks at) -/
theorem nextCur_spec (eps : List Ep) (cur : String) (d : Int) : ∃ o, NextCur eps cur d (nextCur eps cur d) o :=
  let ⟨o, h, _⟩ := muc_spec { r := 0, d := d, eps := eps, orphans := [], current := cur, future := "", timers := [],
                               now := 0, nextObj := 0, nextTid := 0 }
  ⟨o, h⟩

theorem muc_fields (s : St) :
    (maybeUpdateCurrent s).eps = s.eps ∧ (maybeUpdateCurrent s).r = s.r ∧
    (maybeUpdateCurrent s).d = s.d ∧ (maybeUpdateCurrent s).now = s.now := by
  obtain ⟨o, -, h⟩ := muc_spec s
  rw [h]; cases o <;> exact ⟨rfl, rfl, rfl, rfl⟩

theorem muc_eps (s : St) : (maybeUpdateCurrent s).eps = s.eps := (muc_fields s).1

theorem muc_current (s : St) : (maybeUpdateCurrent s).current = nextCur s.eps s.current s.d := by
  obtain ⟨o, hn, h⟩ := muc_spec s
  rw [h]
  generalize nextCur s.eps s.current s.d = n at hn ⊢
  cases hn <;> rfl

/-- `maybeUpdateCurrent` establishes `Inv` from the table alone: every operation ends with it -/
theorem muc_inv {s : St} (hb : Base s) : Inv (maybeUpdateCurrent s) := by
  obtain ⟨he, hr, hd, -⟩ := muc_fields s
  have key : ∃ n, findEp s.eps (nextCur s.eps s.current s.d) = some n ∧
      (n.status = .unavailable → ∀ e ∈ s.eps, e.status ≠ .available) := by
    have top : ∀ t, topAvail s.eps = some t → ∃ n, findEp s.eps t.id = some n ∧
        (n.status = .unavailable → ∀ e ∈ s.eps, e.status ≠ .available) := fun t ht =>
      ⟨t, findEp_of_mem hb.idInj (topAvail_mem ht).1, fun hu => by rw [(topAvail_mem ht).2] at hu; cases hu⟩
    obtain ⟨o, h⟩ := nextCur_spec s.eps s.current s.d
    generalize nextCur s.eps s.current s.d = n at h ⊢
    cases h with
    | noAvail c hc ht => exact ⟨c, hc, fun _ => topAvail_eq_none.mp ht⟩
    | guarded c t hc _ hrec _ => exact ⟨c, hc, fun hu => by rw [hrec] at hu; cases hu⟩
    | isTop c t _ ht hct => rw [hct]; exact top t ht
    | defer c t hc _ _ _ _ hst => exact ⟨c, hc, fun hu => absurd hu hst⟩
    | switch c t _ ht => exact top t ht
    | gone t _ ht => exact top t ht
    | goneNoAvail t _ ht hto => exact ⟨t, findEp_of_mem hb.idInj (topOf_mem hto), fun _ => topAvail_eq_none.mp ht⟩
    | empty h => exact absurd h hb.nonempty
  obtain ⟨n, hn, hn5⟩ := key
  refine { base_of_eps hb he hr hd with curMem := ?_, m5 := ?_ }
  · rw [he, muc_current]; exact ⟨n, hn⟩
  · rw [he, muc_current, hn]; intro c hc; cases hc; exact hn5

section nextCur
variable {eps : List Ep} {cur : String} {d : Int}

theorem nextCur_noavail (hna : anyAvail eps = false) :
    nextCur eps cur d =
      if (ids eps).contains cur then cur
      else match topOf eps with | some t => t.id | none => cur := by
  have hnone : topAvail eps = none := topAvail_eq_none.mpr (anyAvail_eq_false.mp hna)
  obtain ⟨o, h⟩ := nextCur_spec eps cur d
  generalize nextCur eps cur d = n at h ⊢
  cases h with
  | noAvail c hc _ => rw [ids_contains, hc]; rfl
  | guarded c t _ ht | isTop c t _ ht | defer c t _ ht | switch c t _ ht => rw [hnone] at ht; cases ht
  | gone t _ ht => rw [hnone] at ht; cases ht
  | goneNoAvail t hc _ hto => rw [ids_contains, hc, hto]; rfl
  | empty h => subst h; rfl

/-- a current endpoint that is in the table is left by the `switch` row only -/
theorem nextCur_eq_self {c : Ep} (hc : findEp eps cur = some c)
    (hsw : ∀ t, topAvail eps = some t → isProtected (some c) (some t) = false → cur ≠ t.id →
      ¬ (d = 0 ∨ c.status = .unavailable)) : nextCur eps cur d = cur := by
  obtain ⟨o, h⟩ := nextCur_spec eps cur d
  generalize nextCur eps cur d = n at h ⊢
  cases h with
  | noAvail | guarded | isTop | defer | empty => rfl
  | switch c' t hc' ht hp hct hd => rw [hc] at hc'; cases hc'; exact absurd hd (hsw t ht hp hct)
  | gone t hc' | goneNoAvail t hc' => rw [hc] at hc'; cases hc'

theorem nextCur_stays (hid : ∀ a ∈ eps, ∀ b ∈ eps, a.id = b.id → a = b)
    (hpr : ∀ a ∈ eps, ∀ b ∈ eps, a.prio = b.prio → a.id = b.id)
    {c : Ep} (hc : findEp eps cur = some c) (hrec : c.status = .recovering)
    (hno : higherAvail eps c.prio = false) : nextCur eps cur d = cur :=
  nextCur_eq_self hc fun t ht hp _ _ => by
    have htm := topAvail_mem ht
    -- the top available endpoint does not outrank `c` and is another entry: `c` is protected
    rw [higherAvail_eq ht, decide_eq_false_iff_not] at hno
    have hne := prio_ne hid hpr htm.1 (findEp_some hc).1 (fun h => by rw [h, hrec] at htm; cases htm.2)
    have : isProtected (some c) (some t) = true := isProtected_some.mpr ⟨hrec, by omega⟩
    rw [hp] at this; cases this

theorem nextCur_no_preempt {c : Ep} (hd : d ≠ 0) (hc : findEp eps cur = some c)
    (hst : c.status ≠ .unavailable) : nextCur eps cur d = cur :=
  nextCur_eq_self hc fun _ _ _ _ h => h.elim hd hst

theorem nextCur_no_downgrade (hid : ∀ a ∈ eps, ∀ b ∈ eps, a.id = b.id → a = b)
    (hpr : ∀ a ∈ eps, ∀ b ∈ eps, a.prio = b.prio → a.id = b.id)
    {c n : Ep} (hne : nextCur eps cur d ≠ cur)
    (hc : findEp eps cur = some c) (hav : c.status = .available)
    (hn : findEp eps (nextCur eps cur d) = some n) : n.prio < c.prio := by
  obtain ⟨o, h⟩ := nextCur_spec eps cur d
  generalize nextCur eps cur d = m at h hne hn
  cases h with
  | noAvail | guarded | isTop | defer | empty => exact absurd rfl hne
  | switch c' t hc' ht _ hct _ =>
    rw [hc] at hc'; cases hc'
    have htm := topAvail_mem ht
    have hcm := findEp_some hc
    rw [findEp_of_mem hid htm.1] at hn; cases hn
    have hle := topAvail_min ht c hcm.1 hav
    have : n.prio ≠ c.prio := fun heq => hct (by rw [← hcm.2]; exact (hpr n htm.1 c hcm.1 heq).symm)
    omega
  | gone t hc' | goneNoAvail t hc' => rw [hc] at hc'; cases hc'

theorem nextCur_switch_top (hne : nextCur eps cur d ≠ cur) (hav : anyAvail eps = true) :
    ∃ t, topAvail eps = some t ∧ nextCur eps cur d = t.id := by
  obtain ⟨o, h⟩ := nextCur_spec eps cur d
  generalize nextCur eps cur d = n at h hne ⊢
  cases h with
  | noAvail | guarded | isTop | defer | empty => exact absurd rfl hne
  | switch c t _ ht => exact ⟨t, ht, rfl⟩
  | gone t _ ht => exact ⟨t, ht, rfl⟩
  | goneNoAvail t _ ht =>
    obtain ⟨t', ht'⟩ := anyAvail_iff_topAvail.mp hav
    rw [ht] at ht'; cases ht'

theorem nextCur_eq_top {t : Ep} (ht : topAvail eps = some t)
    (hgo : ∀ c, findEp eps cur = some c → ¬ (c.status = .recovering ∧ c.prio < t.prio) ∧
      (cur ≠ t.id → d = 0 ∨ c.status = .unavailable)) : nextCur eps cur d = t.id := by
  obtain ⟨o, h⟩ := nextCur_spec eps cur d
  generalize nextCur eps cur d = n at h ⊢
  cases h with
  | noAvail _ _ ht' | goneNoAvail _ _ ht' => rw [ht] at ht'; cases ht'
  | guarded c t' hc ht' hrec hlt => rw [ht] at ht'; cases ht'; exact absurd ⟨hrec, hlt⟩ (hgo c hc).1
  | isTop c t' _ ht' hct => rw [ht] at ht'; cases ht'; exact hct
  | defer c t' hc ht' _ hct hd hst =>
    rw [ht] at ht'; cases ht'
    exact ((hgo c hc).2 hct).elim (fun h => absurd h hd) (fun h => absurd h hst)
  | switch c t' _ ht' | gone t' _ ht' => rw [ht] at ht'; cases ht'; rfl
  | empty hnil => have := (topAvail_mem ht).1; rw [hnil] at this; cases this

/-- the guard of the delayed switch: where it lets a switch to the top available endpoint through, the
    table without delay points there too (the row that keeps a recovering `current` is what the guard rules out) -/
theorem nextCur_guard {t : Ep} (ht : topAvail eps = some t)
    (hg : ∀ c, findEp eps cur = some c → ¬ (c.status ≠ .unavailable ∧ c.prio < t.prio)) :
    nextCur eps cur 0 = t.id :=
  nextCur_eq_top ht fun c hc => ⟨fun ⟨hrec, hlt⟩ => hg c hc ⟨by rw [hrec]; simp, hlt⟩, fun _ => Or.inl rfl⟩

theorem nextCur_top {c t : Ep} (hc : findEp eps cur = some c) (ht : topAvail eps = some t)
    (hnr : c.status ≠ .recovering) (h : cur = t.id ∨ c.status = .unavailable) : nextCur eps cur d = t.id :=
  nextCur_eq_top ht fun c' hc' => by
    rw [hc] at hc'; cases hc'
    exact ⟨fun hp => hnr hp.1, fun hne => Or.inr (h.resolve_left hne)⟩

theorem nextCur_fix (hid : ∀ a ∈ eps, ∀ b ∈ eps, a.id = b.id → a = b) {t : Ep} (htm : t ∈ eps)
    (h : topAvail eps = some t ∨ topAvail eps = none) (d : Int) : nextCur eps t.id d = t.id :=
  nextCur_eq_self (findEp_of_mem hid htm) fun t' ht' _ hne _ => by
    rcases h with h | h <;> rw [h] at ht' <;> cases ht'
    exact hne rfl

theorem nextCur_nextCur (hid : ∀ a ∈ eps, ∀ b ∈ eps, a.id = b.id → a = b) (cur : String) (d : Int) :
    nextCur eps (nextCur eps cur d) d = nextCur eps cur d := by
  obtain ⟨o, h⟩ := nextCur_spec eps cur d
  generalize hn : nextCur eps cur d = n at h
  cases h with
  | noAvail | guarded | isTop | defer | empty => exact hn
  | switch c t _ ht => exact nextCur_fix hid (topAvail_mem ht).1 (Or.inl ht) d
  | gone t _ ht => exact nextCur_fix hid (topAvail_mem ht).1 (Or.inl ht) d
  | goneNoAvail t _ ht hto => exact nextCur_fix hid (topOf_mem hto) (Or.inr ht) d

end nextCur

theorem updId_eq_map (l : List Ep) (id : String) (f : Ep → Ep) :
    updId l id f = l.map (fun e => if e.id == id then f e else e) := rfl

theorem updId_self (l : List Ep) (id : String) : updId l id (fun y => y) = l := by
  simp [updId]

theorem updId_updId (l : List Ep) (id : String) (f g : Ep → Ep) (hf : ∀ y, (f y).id = y.id) :
    updId (updId l id f) id g = updId l id (fun y => g (f y)) := by
  simp only [updId, List.map_map]
  apply List.map_congr_left
  intro y _
  by_cases h : (y.id == id) = true
  · simp only [Function.comp, if_pos h, hf]
  · simp only [Function.comp, if_neg h]

theorem base_map {s s' : St} (hb : Base s) (F : Ep → Ep) (hF : ∀ e, (F e).id = e.id ∧ (F e).prio = e.prio)
    (heps : s'.eps = s.eps.map F) (hr : s'.r = s.r) (hd : s'.d = s.d) : Base s' := by
  refine ⟨hr ▸ hb.rnn, hd ▸ hb.dnn, fun h => hb.nonempty (List.map_eq_nil_iff.mp (heps ▸ h)),
    heps ▸ idInj_map F (fun e => (hF e).1) hb.idInj, ?_⟩
  rw [heps]
  intro a ha b hb' hab
  obtain ⟨a0, ha0, rfl⟩ := List.mem_map.mp ha
  obtain ⟨b0, hb0, rfl⟩ := List.mem_map.mp hb'
  rw [(hF a0).2, (hF b0).2] at hab
  rw [(hF a0).1, (hF b0).1]
  exact hb.prioInj a0 ha0 b0 hb0 hab

theorem base_setStateEp {s : St} (hb : Base s) (e : Ep) (st : Status) : Base (setStateEp s e st) :=
  base_map hb (fun y => if y.id == e.id then touch st s.now y else y) (fun y => by split <;> exact ⟨rfl, rfl⟩) rfl rfl rfl

/-! ### the loops that build the table -/

theorem newEndpoint_fields (s : St) (id : String) (p : Nat) :
    (newEndpoint s id p).1.eps = s.eps ∧ (newEndpoint s id p).1.current = s.current ∧
    (newEndpoint s id p).1.r = s.r ∧ (newEndpoint s id p).1.d = s.d ∧
    (newEndpoint s id p).2.id = id ∧ (newEndpoint s id p).2.prio = p := by
  generalize h : newEndpoint s id p = r
  unfold newEndpoint at h
  by_cases hr : s.r > 0
  · rw [if_pos hr] at h; subst h; exact ⟨rfl, rfl, rfl, rfl, rfl, rfl⟩
  · rw [if_neg hr] at h; subst h; exact ⟨rfl, rfl, rfl, rfl, rfl, rfl⟩

theorem newEndpoint_snd (s : St) (id : String) (p : Nat) : (newEndpoint s id p).2 =
    { id := id, obj := s.nextObj, prio := p, status := if s.r > 0 then .recovering else .unavailable,
      lastChange := none, timer := if s.r > 0 then some s.nextTid else none } := by
  by_cases hr : s.r > 0 <;> simp [newEndpoint, hr]

theorem newEndpoint_id (s : St) (id : String) (p : Nat) : (newEndpoint s id p).2.id = id := by
  rw [newEndpoint_snd]

theorem newEndpoint_status (s : St) (id : String) (p : Nat) :
    (newEndpoint s id p).2.status ≠ .available := by
  rw [newEndpoint_snd]; dsimp only; split <;> simp

/-- a new endpoint object (with its recovery timer when `r > 0`) joins the table -/
def addNew (s : St) (id : String) (i : Nat) : St :=
  { (newEndpoint s id i).1 with eps := (newEndpoint s id i).1.eps ++ [(newEndpoint s id i).2] }

def setPrio (s : St) (id : String) (i : Nat) : St :=
  { s with eps := s.eps.map fun e => if e.id == id then { e with prio := i } else e }

/-- the entries selected by `p` leave the table (their objects stay captured by their timers) -/
def moveOut (s : St) (p : Ep → Bool) : St :=
  { s with eps := s.eps.filter (fun e => !p e), orphans := s.orphans ++ s.eps.filter p }

theorem addNew_eq (s : St) (id : String) (i : Nat) : addNew s id i =
    if s.r > 0 then
      { addTimer { s with nextObj := s.nextObj + 1 } s.r (.recovery s.nextObj id none) with
        eps := s.eps ++ [{ id := id, obj := s.nextObj, prio := i, status := .recovering, lastChange := none,
                           timer := some s.nextTid }] }
    else
      { s with nextObj := s.nextObj + 1,
               eps := s.eps ++ [{ id := id, obj := s.nextObj, prio := i, status := .unavailable, lastChange := none,
                                  timer := none }] } := by
  unfold addNew newEndpoint
  by_cases hr : s.r > 0
  · simp only [hr, ↓reduceIte]
    rfl
  · simp only [hr, ↓reduceIte]

theorem addNew_fields (s : St) (id : String) (i : Nat) :
    (addNew s id i).eps = s.eps ++ [(newEndpoint s id i).2] ∧ (addNew s id i).current = s.current ∧
    (addNew s id i).r = s.r ∧ (addNew s id i).d = s.d := by
  unfold addNew
  obtain ⟨h1, h2, h3, h4, -⟩ := newEndpoint_fields s id i
  exact ⟨congrArg (· ++ [(newEndpoint s id i).2]) h1, h2, h3, h4⟩

theorem ids_addNew (s : St) (id : String) (i : Nat) : ids (addNew s id i).eps = ids s.eps ++ [id] := by
  simp [ids, (addNew_fields s id i).1, newEndpoint_id]

theorem ids_setPrio (s : St) (id : String) (i : Nat) : ids (setPrio s id i).eps = ids s.eps := by
  simp only [ids, setPrio, List.map_map]
  apply List.map_congr_left
  intro e _
  simp only [Function.comp]
  split <;> rfl

theorem findEp_moveOut_self (s : St) (x : String) : findEp (moveOut s (fun e => e.id == x)).eps x = none :=
  findEp_none.mpr fun e he => by simpa using (List.mem_filter.mp he).2

theorem dropObsolete_eq (s : St) (l : List String) : dropObsolete s l = moveOut s (fun e => !l.contains e.id) := by
  simp [dropObsolete, moveOut]

theorem addOrUpdate_cons (s : St) (x : String) (xs : List String) (i : Nat) :
    addOrUpdate s (x :: xs) i =
      match findEp s.eps x with
      | none => addOrUpdate (addNew s x i) xs (i + 1)
      | some _ => addOrUpdate (setPrio s x i) xs (i + 1) := by
  rw [addOrUpdate]
  cases findEp s.eps x <;> rfl

theorem initLoop_cons (s : St) (x : String) (xs : List String) (i : Nat) :
    initLoop s (x :: xs) i = initLoop (addNew (moveOut s (fun e => e.id == x)) x i) xs (i + 1) := by
  rw [initLoop]
  congr 1
  unfold addNew moveOut newEndpoint
  by_cases hr : s.r > 0
  · simp only [hr, ↓reduceIte, addTimer]
    congr 1
  · simp only [hr, ↓reduceIte]
    congr 1

/-- a loop that walks a list with a position counter keeps an invariant `P s done` of its body (`done`: the part of
    the list walked so far); `addOrUpdate_ind` and `initRaw_ind` are the two loops of the model, `addOrUpdate_ind'`
    is for an invariant that looks at neither the list nor the position -/
theorem walk_ind {loop : St → List String → Nat → St} {body : St → String → Nat → St}
    (hnil : ∀ s i, loop s [] i = s) (hcons : ∀ s x xs i, loop s (x :: xs) i = loop (body s x i) xs (i + 1))
    {P : St → List String → Prop} (step : ∀ s done x, P s done → P (body s x done.length) (done ++ [x]))
    (rest : List String) : ∀ (s : St) (done : List String), P s done → P (loop s rest done.length) (done ++ rest) := by
  induction rest with
  | nil => intro s done h; rw [hnil, List.append_nil]; exact h
  | cons x xs ih =>
    intro s done h
    have := ih _ _ (step s done x h)
    rwa [List.length_append, List.length_singleton, ← hcons, List.append_assoc, List.singleton_append] at this

theorem addOrUpdate_ind {P : St → List String → Prop}
    (new : ∀ s done x, P s done → findEp s.eps x = none → P (addNew s x done.length) (done ++ [x]))
    (upd : ∀ s done x e, P s done → findEp s.eps x = some e → P (setPrio s x done.length) (done ++ [x]))
    (rest : List String) : ∀ (s : St) (done : List String), P s done →
    P (addOrUpdate s rest done.length) (done ++ rest) :=
  walk_ind (body := fun s x i => match findEp s.eps x with | none => addNew s x i | some _ => setPrio s x i)
    (fun _ _ => rfl) (fun s x xs i => by rw [addOrUpdate_cons]; cases findEp s.eps x <;> rfl)
    (fun s done x h => by
      cases hf : findEp s.eps x with
      | none => exact new s done x h hf
      | some e => exact upd s done x e h hf) rest

theorem addOrUpdate_ind' {P : St → Prop}
    (new : ∀ s x i, P s → findEp s.eps x = none → P (addNew s x i))
    (upd : ∀ s x i, P s → P (setPrio s x i))
    (rest : List String) (s : St) (h : P s) : P (addOrUpdate s rest 0) :=
  addOrUpdate_ind (P := fun s _ => P s) (fun s done x h hf => new s x done.length h hf)
    (fun s done x _ h _ => upd s x done.length h) rest s [] h

theorem initRaw_ind {P : St → List String → Prop} {r d : Int} {l : List String} {s : St}
    (h : initRaw r d l = some s)
    (h0 : ∀ first, l.head? = some first →
      P { r := r, d := d, eps := [], orphans := [], current := first, future := "",
          timers := [], now := 0, nextObj := 0, nextTid := 0 } [])
    (step : ∀ s done x, P s done → P (addNew (moveOut s (fun e => e.id == x)) x done.length) (done ++ [x])) :
    P s l := by
  cases l with
  | nil => cases h
  | cons first rest =>
    cases h
    exact walk_ind (fun _ _ => rfl) initLoop_cons step _ _ [] (h0 first rfl)

theorem addOrUpdate_fields (s : St) (l : List String) :
    (addOrUpdate s l 0).current = s.current ∧ (addOrUpdate s l 0).r = s.r ∧ (addOrUpdate s l 0).d = s.d :=
  addOrUpdate_ind' (P := fun s' => s'.current = s.current ∧ s'.r = s.r ∧ s'.d = s.d)
    (fun s' x i h _ => by obtain ⟨-, h2, h3, h4⟩ := addNew_fields s' x i; rw [h2, h3, h4]; exact h)
    (fun _ _ _ h => h) l s ⟨rfl, rfl, rfl⟩

theorem addOrUpdate_cover (s : St) (l : List String) : ∀ id ∈ l, id ∈ ids (addOrUpdate s l 0).eps :=
  addOrUpdate_ind (P := fun s done => ∀ id ∈ done, id ∈ ids s.eps)
    (fun s done x h _ id hid => by
      rw [ids_addNew]
      exact (List.mem_append.mp hid).elim (fun h1 => List.mem_append.mpr (Or.inl (h id h1))) (fun h1 => List.mem_append.mpr (Or.inr h1)))
    (fun s done x e h hf id hid => by
      rw [ids_setPrio]
      rcases List.mem_append.mp hid with h1 | h1
      · exact h id h1
      · rw [List.mem_singleton.mp h1, ← (findEp_some hf).2]; exact List.mem_map_of_mem (findEp_some hf).1)
    l s [] (fun _ h => by cases h)

theorem init_cover {r d : Int} {l : List String} {s : St} (h : initRaw r d l = some s) : ∀ id ∈ l, id ∈ ids s.eps :=
  initRaw_ind (P := fun s done => ∀ id ∈ done, id ∈ ids s.eps) h (fun _ _ _ h => by cases h)
    (fun s done x hs id hid => by
      rw [ids_addNew]
      by_cases hx : id = x
      · exact List.mem_append.mpr (Or.inr (List.mem_singleton.mpr hx))
      · obtain ⟨e, he, rfl⟩ := List.mem_map.mp (hs id ((List.mem_append.mp hid).resolve_right (by simpa using hx)))
        exact List.mem_append.mpr (Or.inl (List.mem_map_of_mem (List.mem_filter.mpr ⟨he, by simpa using hx⟩))))

/-- every entry whose id has been walked sits at a position of the walked part `done` that names it;
    `Q`: what is known of the ids that have not been walked yet -/
structure Walked (Q : String → Prop) (s : St) (done : List String) : Prop where
  idInj : ∀ a ∈ s.eps, ∀ b ∈ s.eps, a.id = b.id → a = b
  known : ∀ e ∈ s.eps, e.id ∈ done ∨ Q e.id
  pos : ∀ e ∈ s.eps, e.id ∈ done → done[e.prio]? = some e.id

theorem Walked.prioInj {Q : String → Prop} {s : St} {l : List String} (h : Walked Q s l) (hin : ∀ e ∈ s.eps, e.id ∈ l) :
    ∀ a ∈ s.eps, ∀ b ∈ s.eps, a.prio = b.prio → a.id = b.id := by
  intro a ha b hb hab
  have h1 := h.pos a ha (hin a ha)
  have h2 := h.pos b hb (hin b hb)
  rw [hab, h2] at h1
  exact (Option.some.inj h1).symm

theorem walked_step {Q : String → Prop} {s s' : St} {done : List String} {x : String} (h : Walked Q s done)
    (hinj : ∀ a ∈ s'.eps, ∀ b ∈ s'.eps, a.id = b.id → a = b)
    (mem : ∀ a ∈ s'.eps, (a ∈ s.eps ∧ a.id ≠ x) ∨ (a.id = x ∧ a.prio = done.length)) :
    Walked Q s' (done ++ [x]) := by
  refine ⟨hinj, fun a ha => ?_, fun a ha hin => ?_⟩
  · rcases mem a ha with ⟨ha', _⟩ | ⟨hax, _⟩
    · exact (h.known a ha').imp_left fun h1 => List.mem_append.mpr (Or.inl h1)
    · exact Or.inl (List.mem_append.mpr (Or.inr (List.mem_singleton.mpr hax)))
  · rcases mem a ha with ⟨ha', hax⟩ | ⟨hax, hpr⟩
    · have hp := h.pos a ha' ((List.mem_append.mp hin).resolve_right (by simpa using hax))
      rw [List.getElem?_append_left (List.getElem?_eq_some_iff.mp hp).1]
      exact hp
    · rw [hax, hpr]; exact List.getElem?_concat_length

theorem walked_addNew {Q : String → Prop} {s : St} {done : List String} {x : String} (h : Walked Q s done)
    (hf : findEp s.eps x = none) : Walked Q (addNew s x done.length) (done ++ [x]) := by
  obtain ⟨heps, -⟩ := addNew_fields s x done.length
  obtain ⟨-, -, -, -, hid, hpr⟩ := newEndpoint_fields s x done.length
  have mem : ∀ a ∈ (addNew s x done.length).eps, (a ∈ s.eps ∧ a.id ≠ x) ∨ a = (newEndpoint s x done.length).2 := by
    intro a ha
    rw [heps] at ha
    rcases List.mem_append.mp ha with ha | ha
    · exact Or.inl ⟨ha, findEp_none.mp hf a ha⟩
    · exact Or.inr (List.mem_singleton.mp ha)
  refine walked_step h (fun a ha b hb hab => ?_) (fun a ha => (mem a ha).imp_right fun e => by rw [e]; exact ⟨hid, hpr⟩)
  rcases mem a ha with ⟨ha', hax⟩ | rfl <;> rcases mem b hb with ⟨hb', hbx⟩ | rfl
  · exact h.idInj a ha' b hb' hab
  · exact absurd (hab.trans hid) hax
  · exact absurd (hab.symm.trans hid) hbx
  · rfl

theorem walked_setPrio {Q : String → Prop} {s : St} {done : List String} (x : String) (h : Walked Q s done) :
    Walked Q (setPrio s x done.length) (done ++ [x]) :=
  walked_step h (idInj_map _ (fun a => by split <;> rfl) h.idInj) fun a ha =>
    (mem_updId_iff.mp ha).symm.imp_right fun ⟨a0, _, hax, e⟩ => by rw [e]; exact ⟨hax, rfl⟩

theorem walked_moveOut {Q : String → Prop} {s : St} {done : List String} (p : Ep → Bool) (h : Walked Q s done) :
    Walked Q (moveOut s p) done :=
  ⟨fun a ha b hb => h.idInj a (List.mem_filter.mp ha).1 b (List.mem_filter.mp hb).1,
   fun e he => h.known e (List.mem_filter.mp he).1, fun e he => h.pos e (List.mem_filter.mp he).1⟩

theorem init_walked {r d : Int} {l : List String} {s : St} (h : initRaw r d l = some s) : Walked (fun _ => False) s l :=
  initRaw_ind (P := Walked (fun _ => False)) h
    (fun _ _ => ⟨fun a ha => (by cases ha), fun e he => (by cases he), fun e he => (by cases he)⟩)
    (fun s done x h => walked_addNew (walked_moveOut _ h) (findEp_moveOut_self s x))

theorem setEndpoints_walked {s : St} (hid : ∀ a ∈ s.eps, ∀ b ∈ s.eps, a.id = b.id → a = b) (l : List String) :
    Walked (· ∈ l) (addOrUpdate (dropObsolete s l) l 0) l :=
  addOrUpdate_ind (P := Walked (· ∈ l)) (fun _ _ _ h hf => walked_addNew h hf) (fun _ _ x _ h _ => walked_setPrio x h) l _ []
    ⟨fun a ha b hb => hid a (List.mem_filter.mp ha).1 b (List.mem_filter.mp hb).1,
     fun e he => Or.inr (by simpa using (List.mem_filter.mp he).2), fun e _ hin => by cases hin⟩

theorem base_setEndpoints {s : St} (hb : Base s) (l : List String) (hl : l ≠ []) :
    Base (addOrUpdate (dropObsolete s l) l 0) := by
  have hw := setEndpoints_walked hb.idInj l
  obtain ⟨-, hr, hd⟩ := addOrUpdate_fields (dropObsolete s l) l
  refine ⟨hr ▸ hb.rnn, hd ▸ hb.dnn, fun hnil => ?_, hw.idInj, hw.prioInj fun e he => (hw.known e he).elim id id⟩
  obtain ⟨x, xs, rfl⟩ := List.exists_cons_of_ne_nil hl
  have := addOrUpdate_cover (dropObsolete s (x :: xs)) (x :: xs) x List.mem_cons_self
  rw [hnil] at this; cases this

end GcpVerif.ME
