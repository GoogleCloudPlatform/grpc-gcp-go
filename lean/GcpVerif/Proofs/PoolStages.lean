/-
Every operation of the pool model is a sequence of primitive stages.

`Stage s0 op s s'`: while the operation `op`, begun in state `s0`, is being carried out, the model
passes from `s` to `s'` by one primitive update.  Each constructor gives the update as an explicit
record (so that what a stage leaves alone is read off by `rfl`) together with what the control flow
guarantees at the place where the model performs it.  `step_induct` is the one walk through the
operations: a predicate kept by every stage is kept by `step`.  The invariant files treat the stages;
they unfold an operation only where the statement is about that one operation as a whole (`step_of_core` adds
the wake-up pass that ends every step).

The last part keeps a second, unconditional form (`StagesA` / `Stages` / `Leaves`, `lift_step`, `lift_quiet`,
`inv_step`): the stages as fields of a structure stated about the model's own functions, without the conditions,
for a relation that holds across such a function wherever it is applied.  `stage_rel` derives it from `Stage`;
the invariant files use `Stage` directly.
-/
import GcpVerif.Proofs.PoolEqs
namespace GcpVerif.Pool

/-- One primitive stage of the operation `op` begun in `s0`.  Constructors without an operation in
    their type occur in several operations. -/
inductive Stage (s0 : St) : Op → St → St → Prop
  | setAddrs (v : Nat) : Stage s0 (.ccs v) s0 { s0 with addrs := v }
  | setCfg (v : Nat) {s : St} : s.cfg = none → Stage s0 (.ccs v) s { s with cfg := some (initialCfg s.cfgIn) }
  | updateAll (v : Nat) {s : St} :
    Stage s0 (.ccs v) s { s with scAddrs := (ccsTargets s).foldl (fun m sc => insert m sc s.addrs) s.scAddrs }
  | setFail (n : Nat) : Stage s0 (.factory n) s0 { s0 with failN := n }
  | setNow (n : Nat) : Stage s0 (.adv n) s0 { s0 with now := s0.now + n }
  /-- a failed `cc.NewSubConn` uses up one injected failure (in `addSubConn` or in `refresh`) -/
  | newFail {op : Op} {s : St} : 0 < s.failN → Stage s0 op s { s with failN := s.failN - 1 }
  /-- `addSubConn` succeeds; it is called only below the minimum size (`enforceMinSize`) or below the
      maximum size (the least-loaded path of a pick) of a configured balancer -/
  | addConn {op : Op} {s : St} (c : Cfg) : s.cfg = some c →
    (s.scRefs.length < c.min ∨ c.max = 0 ∨ s.scRefs.length < c.max) → s.addrs ≠ 0 → s.failN = 0 →
    Stage s0 op s s.addConn
  | setRr {op : Op} {s : St} : Stage s0 op s { s with rr := (s.rr + 1) % 2 ^ 64 }
  /-- a pick is stopped in front of `newSubConn` … -/
  | hold (call pn : Nat) (m : String) (ctx : CtxKind) (dl : Option Int) (req : Req) : wouldGrow s0 pn m ctx req = true →
    Stage s0 (.pickHold call pn m ctx dl req) s0 { s0 with held := s0.held ++ [(call, pn)] }
  /-- … and continues -/
  | release (call : Nat) (x : Nat × Nat) : x ∈ s0.held → x.1 = call →
    Stage s0 (.resume call) s0 { s0 with held := s0.held.filter fun h => h.1 != call }
  | addWaiter {op : Op} {s : St} (w : Waiter) : callIdUsed s w.id = false → w.slot < s.refs.length →
    Stage s0 op s { s with waiters := s.waiters ++ [w] }
  /-- `getReadySubConnRef` remembers a stand-in for a bound key whose connection is not READY -/
  | setFallback {op : Op} {s : St} (c : Cfg) (key : String) (sc : Sc) (l : List Slot) (slot : Slot) (r : RefSt) :
    c.fb = true → lookup s.affinity key = some sc → isReadySc s sc = false → lookup s.fallback key = none →
    s.picker = .gcp l → leastBusy s l = some slot → getRef s slot = some r →
    Stage s0 op s { s with fallback := insert s.fallback key r.subConn }
  | place {op : Op} {s : St} (c : Call) (r : RefSt) : getRef s c.slot = some r → callIdUsed s c.id = false →
    c.started = s.now → Stage s0 op s (s.placed c)
  | ctxDone (w : Waiter) (r : RefSt) : w ∈ s0.waiters → getRef s0 w.slot = some r →
    Stage s0 (.ctxdone w.id) s0 (s0.woken w)
  /-- the branch of `ctxdone` on which the Go code would panic -/
  | dropWaiter (w : Waiter) : w ∈ s0.waiters → getRef s0 w.slot = none →
    Stage s0 (.ctxdone w.id) s0 { s0 with waiters := s0.waiters.filter fun x => x.id != w.id }
  /-- the wake-up pass that follows every operation hands a waiting pick its slot; if the picks waiting
      when the pass began had distinct ids, this one was still waiting -/
  | wake {op : Op} {s : St} (w : Waiter) (r : RefSt) : getRef s w.slot = some r →
    (((stepCore s0 op).1.waiters.map (·.id)).Nodup → w ∈ s.waiters) → Stage s0 op s (s.woken w)
  | completeCall (call : Call) (err : ErrKind) (reply : Msg) : call ∈ s0.calls →
    Stage s0 (.done call.id err reply) s0 (completeCall s0 call)
  | detReset (id : Nat) (err : ErrKind) (reply : Msg) {s : St} (slot : Slot) :
    Stage s0 (.done id err reply) s (modRef s slot fun r => { r with lastResp := s.now, deCalls := 0, refreshCnt := 0 })
  | deInc (id : Nat) (err : ErrKind) (reply : Msg) {s : St} (slot : Slot) :
    Stage s0 (.done id err reply) s (modRef s slot fun r => { r with deCalls := satInc r.deCalls })
  | startRefresh (id : Nat) (err : ErrKind) (reply : Msg) {s : St} (slot : Slot) (r : RefSt) :
    getRef s slot = some r → r.refreshing = false → s.addrs ≠ 0 → s.failN = 0 →
    Stage s0 (.done id err reply) s (s.startRefresh slot)
  | bindAll (call : Call) (reply : Msg) {s : St} (keys : List String) (r : RefSt) : call ∈ s0.calls →
    call.cmd = .bind → getRef s call.slot = some r →
    Stage s0 (.done call.id .nil reply) s (s.rebound (keys.foldl (fun s k => bindSubConn s k r.subConn) s))
  | unbind (call : Call) (reply : Msg) {s : St} : call ∈ s0.calls → call.cmd = .unbind →
    Stage s0 (.done call.id .nil reply) s (s.rebound (unbindSubConn s call.boundKey))
  | swap (sc : Sc) (order : List Slot) (slot : Slot) (r : RefSt) : lookup s0.refreshingMap sc = some slot →
    getRef s0 slot = some r → Stage s0 (.scs sc .ready order) s0 (s0.swapped sc slot r.subConn)
  /-- a state report for a pool connection that publishes nothing; a Shutdown report is never preceded
      by a swap -/
  | record (sc : Sc) (st : CState) (order : List Slot) {s : St} (oldS : CState) : stateOf s sc = some oldS →
    (st = .shutdown → s = s0) → publishes oldS st s.aggr (s.recorded sc oldS st).aggr = false →
    Stage s0 (.scs sc st order) s (s.recorded sc oldS st)
  | publish (sc : Sc) (st : CState) (order : List Slot) {s : St} (oldS : CState) : stateOf s sc = some oldS →
    (st = .shutdown → s = s0) → publishes oldS st s.aggr (s.recorded sc oldS st).aggr = true →
    Stage s0 (.scs sc st order) s ((s.recorded sc oldS st).republished order)

/-! ### the walk through the operations -/

/-- growing the pool and remembering a stand-in leave the configuration and the call ids in use alone (the walk
    records this on its way, for the conditions of the stages that follow) -/
def SameIds (s s' : St) : Prop :=
  s'.cfg = s.cfg ∧ s'.calls = s.calls ∧ s'.waiters = s.waiters ∧ s'.held = s.held

theorem SameIds.trans {a b c : St} (h1 : SameIds a b) (h2 : SameIds b c) : SameIds a c :=
  ⟨h2.1.trans h1.1, h2.2.1.trans h1.2.1, h2.2.2.1.trans h1.2.2.1, h2.2.2.2.trans h1.2.2.2⟩

theorem SameIds.used {s s' : St} (h : SameIds s s') (call : Nat) : callIdUsed s' call = callIdUsed s call := by
  unfold callIdUsed; rw [h.2.1, h.2.2.1, h.2.2.2]

section walk
variable {s0 : St} {op : Op} {P : St → Prop} (hs : ∀ {s s' : St}, Stage s0 op s s' → P s → P s')
include hs

theorem ind_addSubConn {s : St} {c : Cfg} (hc : s.cfg = some c)
    (hroom : s.scRefs.length < c.min ∨ c.max = 0 ∨ s.scRefs.length < c.max) (h : P s) :
    P (addSubConn s).1 ∧ SameIds s (addSubConn s).1 := by
  rcases addSubConn_cases s with e | ⟨hf, e⟩ | ⟨ha, hf, e⟩ <;> rw [e]
  · exact ⟨h, rfl, rfl, rfl, rfl⟩
  · exact ⟨hs (.newFail hf) h, rfl, rfl, rfl, rfl⟩
  · exact ⟨hs (.addConn c hc hroom ha hf) h, rfl, rfl, rfl, rfl⟩

theorem ind_newSubConn {s : St} {c : Cfg} (hc : s.cfg = some c)
    (hroom : s.scRefs.length < c.min ∨ c.max = 0 ∨ s.scRefs.length < c.max) (h : P s) :
    P (newSubConn s).1 ∧ SameIds s (newSubConn s).1 := by
  unfold newSubConn; split
  · exact ⟨h, rfl, rfl, rfl, rfl⟩
  · exact ind_addSubConn hs hc hroom h

theorem ind_enforce {c : Cfg} (min : Nat) (hmin : min ≤ c.min) (fuel : Nat) {s : St} (hc : s.cfg = some c) (h : P s) :
    P (enforceMinSize s min fuel).1 ∧ SameIds s (enforceMinSize s min fuel).1 := by
  refine enforce_induct (R := fun s r => s.cfg = some c → P s → P r.1 ∧ SameIds s r.1)
    (fun _ _ h => ⟨h, rfl, rfl, rfl, rfl⟩) (fun s s1 ev hlt e hc h => ?_) (fun s s1 ev r hlt e ih hc h => ?_) fuel s hc h
  all_goals have h1 := ind_addSubConn hs hc (Or.inl (Nat.lt_of_lt_of_le hlt hmin)) h; rw [e] at h1
  · exact h1
  · have h2 := ih (h1.2.1.trans hc) h1.1
    exact ⟨h2.1, h1.2.trans h2.2⟩

theorem ind_getReady {s : St} (c : Cfg) (key : String) (h : P s) :
    P (getReadySubConnRef s c key).1 ∧ SameIds s (getReadySubConnRef s c key).1 := by
  rcases getReadySubConnRef_cases s c key with ⟨_, _, e, _⟩ | ⟨sc, l, slot, r, hfb, h1, h2, h3, h4, h5, h6, e⟩ <;> rw [e]
  · exact ⟨h, rfl, rfl, rfl, rfl⟩
  · exact ⟨hs (.setFallback c key sc l slot r hfb h1 h2 h3 h4 h5 h6) h, rfl, rfl, rfl, rfl⟩

theorem ind_getLeastBusy {s : St} {c : Cfg} (hc : s.cfg = some c) (l : List Slot) (h : P s) :
    P (getLeastBusy s c l).1 ∧ SameIds s (getLeastBusy s c l).1 := by
  rcases getLeastBusy_cases s c l with e | ⟨_, _, _, hroom, e⟩ <;> rw [e]
  · exact ⟨h, rfl, rfl, rfl, rfl⟩
  · exact ind_newSubConn hs hc (Or.inr hroom) h

theorem ind_chooseSlot {s : St} {c : Cfg} (hc : s.cfg = some c) (l : List Slot) (key : String) (h : P s) :
    P (chooseSlot s c l key).1 ∧ SameIds s (chooseSlot s c l key).1 := by
  unfold chooseSlot
  split
  · have h1 := ind_getReady hs c key h
    generalize getReadySubConnRef s c key = r at h1 ⊢
    obtain ⟨s1, o, b⟩ := r
    cases b with
    | true => exact h1
    | false =>
      have h2 := ind_getLeastBusy hs (h1.2.1.trans hc) l h1.1
      exact ⟨h2.1, h1.2.trans h2.2⟩
  · exact ind_getLeastBusy hs hc l h

theorem ind_finishPick {s : St} (r : Option Slot) (ev : List Event) (call : Nat) (cmd : Cmd) (loc : Loc)
    (key : String) (ctx : CtxKind) (dl : Option Int) (hfree : callIdUsed s call = false) (h : P s) :
    P (finishPick s r ev call cmd loc key ctx dl).1 := by
  unfold finishPick
  cases r with
  | none => exact h
  | some slot =>
    cases hg : getRef s slot with
    | none => simp only [place_none hg]; exact h
    | some r => simp only [place_some hg]; exact hs (.place _ r hg hfree rfl) h

theorem ind_pickRR {s : St} (call : Nat) (loc : Loc) (ctx : CtxKind) (dl : Option Int)
    (hfree : callIdUsed s call = false) (h : P s) : P (pickRR s call loc ctx dl).1 := by
  unfold pickRR
  by_cases hne : s.refs.isEmpty = true
  · rw [if_pos hne]; exact h
  · rw [if_neg hne]
    have h1 := hs .setRr h
    dsimp only
    split
    · exact ind_finishPick hs _ _ _ _ _ _ _ _ hfree h1
    · exact hs (.addWaiter (s := { s with rr := (s.rr + 1) % 2 ^ 64 }) ⟨call, _, loc, ctx, dl⟩ hfree
        (Nat.mod_lt _ (List.length_pos_iff.mpr fun e => hne (e ▸ rfl)))) h1

theorem ind_opPick {s : St} (call pn : Nat) (m : String) (ctx : CtxKind) (dl : Option Int) (req : Req) (h : P s) :
    P (opPick s call pn m ctx dl req).1 := by
  unfold opPick
  by_cases hbad : (callIdUsed s call || pickerBusy s pn) = true
  · rw [if_pos hbad]; exact h
  rw [if_neg hbad]
  have hfree : callIdUsed s call = false := (Bool.or_eq_false_iff.mp (Bool.not_eq_true _ ▸ hbad)).1
  cases s.published[pn]? with
  | none => exact h
  | some pub =>
    obtain ⟨st, p⟩ := pub
    cases p with
    | errTF => exact h
    | errNoSc => exact h
    | gcp l =>
      dsimp only
      cases hc : s.cfg with
      | none => exact h
      | some c =>
        dsimp only
        by_cases hl : l.isEmpty = true
        · rw [if_pos hl]; exact h
        rw [if_neg hl]
        generalize resolveCall c m ctx req = rc
        obtain ⟨cmd, loc, ok⟩ := rc
        cases ok with
        | none => exact h
        | some key =>
          dsimp only
          by_cases hrr : (cmd == .bind && c.rr) = true
          · rw [if_pos hrr]; exact ind_pickRR hs call loc ctx dl hfree h
          · rw [if_neg hrr]
            have h1 := ind_chooseSlot hs hc l key h
            generalize chooseSlot s c l key = r at h1 ⊢
            obtain ⟨s1, o, ev⟩ := r
            exact ind_finishPick hs _ _ _ _ _ _ _ _ ((h1.2.used call).trans hfree) h1.1

end walk

/-- the wake-up pass; `N` stands for "the waiting picks it began with have distinct ids" -/
theorem ind_wake {P : St → Prop} {N : Prop} (hw : ∀ {s : St} (w : Waiter) (r : RefSt), getRef s w.slot = some r → (N → w ∈ s.waiters) →
    P s → P (s.woken w)) : ∀ (ws : List Waiter) (acc : St × List Event),
    (N → (ws.map (·.id)).Nodup ∧ ∀ x ∈ ws, x ∈ acc.1.waiters) → P acc.1 → P (ws.foldl wakeOne acc).1
  | [], _, _, h => h
  | w :: ws, acc, hn, h => by
    have hrest : N → (ws.map (·.id)).Nodup ∧ ∀ x ∈ ws, x ∈ acc.1.waiters := fun n =>
      ⟨(List.nodup_cons.mp (hn n).1).2, fun x hx => (hn n).2 x (List.mem_cons_of_mem _ hx)⟩
    rw [List.foldl_cons]
    rcases wakeOne_fst acc w with ⟨_, e⟩ | ⟨r, hg, e⟩
    · rw [e]; exact ind_wake hw ws acc hrest h
    · refine ind_wake hw ws _ (fun n => ⟨(hrest n).1, fun x hx => ?_⟩)
        (e ▸ hw w r hg (fun n => (hn n).2 w List.mem_cons_self) h)
      -- `x` is still waiting: its id is not that of the woken pick
      rw [e]
      refine List.mem_filter.mpr ⟨(hrest n).2 x hx, ?_⟩
      have := (List.nodup_cons.mp (hn n).1).1
      simp only [bne_iff_ne, ne_eq]
      exact fun he => this (List.mem_map.mpr ⟨x, hx, he⟩)

theorem wake_induct {P : St → Prop} {s : St}
    (hw : ∀ {a : St} (w : Waiter) (r : RefSt), getRef a w.slot = some r → P a → P (a.woken w)) (h : P s) :
    P (wakeWaiters s).1 := by
  rw [wakeWaiters_eq]
  exact ind_wake (N := False) (fun w r hg _ => hw w r hg) s.waiters (s, []) (fun n => n.elim) h

section ops
variable {s : St} {P : St → Prop}

theorem ind_opCcs (ver : Nat) (hs : ∀ {a b : St}, Stage s (.ccs ver) a b → P a → P b) (h : P s) :
    P (opCcs s ver).1 := by
  have hcfg : ∀ {t : St}, P t → P (ccsConfigure t).1 ∧ ∃ c, (ccsConfigure t).1.cfg = some c := by
    intro t ht
    unfold ccsConfigure
    cases hc : t.cfg with
    | some c => exact ⟨ht, c, hc⟩
    | none =>
      have h1 := ind_enforce hs (initialCfg t.cfgIn).min (Nat.le_refl _) (initialCfg t.cfgIn).min rfl
        (hs (.setCfg ver hc) ht)
      exact ⟨h1.1, _, h1.2.1⟩
  unfold opCcs
  have h1 := hcfg (hs (.setAddrs ver) h)
  generalize ccsConfigure { s with addrs := ver } = r1 at h1 ⊢
  obtain ⟨s1, ev0⟩ := r1
  obtain ⟨h1, c, hc⟩ := h1
  have h2 := hs (.updateAll ver) h1
  simp only [updateAll_fst] at h1 hc h2 ⊢
  split
  · refine And.left (ind_enforce hs _ (Nat.le_of_eq ?_) _ hc h2)
    simp only [hc]
  · exact h2

theorem ind_opScs (sc : Sc) (st : CState) (order : List Slot)
    (hs : ∀ {a b : St}, Stage s (.scs sc st order) a b → P a → P b) (h : P s) : P (opScs s sc st order).1 := by
  unfold opScs
  have hpre : ∀ p, scsPrologue s sc st = some p → P p.1 ∧ (st = .shutdown → p.1 = s) := by
    intro p hp
    unfold scsPrologue at hp
    cases hl : lookup s.refreshingMap sc with
    | none => simp [hl] at hp; subst hp; exact ⟨h, fun _ => rfl⟩
    | some slot =>
      simp only [hl] at hp
      split at hp
      · cases hp
      · rename_i hr
        have hr : st = .ready := by simpa using hr
        subst hr
        cases hp
        refine ⟨?_, fun hsd => by cases hsd⟩
        cases hg : getRef s slot with
        | none => rw [swap_none hg]; exact h
        | some r => rw [swap_some hg]; exact hs (.swap sc order slot r hl hg) h
  cases hp : scsPrologue s sc st with
  | none => exact h
  | some p =>
    obtain ⟨s1, ev0⟩ := p
    obtain ⟨h1, hsd⟩ := hpre (s1, ev0) hp
    simp only at h1 hsd ⊢
    cases hst : stateOf s1 sc with
    | none => exact h1
    | some oldS =>
      show P (report s1 sc oldS st order).1
      rw [report_eq, maybePublish_fst]
      cases hp : publishes oldS st s1.aggr (s1.recorded sc oldS st).aggr with
      | true => exact hs (.publish sc st order oldS hst hsd hp) h1
      | false => exact hs (.record sc st order oldS hst hsd hp) h1

theorem ind_detect {id : Nat} {err : ErrKind} {reply : Msg}
    (hs : ∀ {a b : St}, Stage s (.done id err reply) a b → P a → P b) {t : St} (c : Cfg) (call : Call) (h : P t) :
    P (detectUnresponsive t c call err).1 := by
  rcases detect_cases t c call err with e | e | e | e <;> rw [e]
  · exact h
  · exact hs (.detReset _ err reply call.slot) h
  · exact hs (.deInc _ err reply call.slot) h
  · have h3 := hs (.deInc _ err reply call.slot) h
    rcases refresh_fst (modRef t call.slot fun r => { r with deCalls := satInc r.deCalls })
      call.slot with e | ⟨hf, e⟩ | ⟨r, hg, hr, ha, hf⟩
    · rw [e]; exact h3
    · rw [e]; exact hs (.newFail hf) h3
    · rw [refresh_ok hg hr ha hf]; exact hs (.startRefresh _ err reply call.slot r hg hr ha hf) h3

theorem ind_applyBindings {call : Call} {reply : Msg} (hm : call ∈ s.calls)
    (hs : ∀ {a b : St}, Stage s (.done call.id .nil reply) a b → P a → P b) {t : St} (h : P t) :
    P (applyBindings t call reply) := by
  unfold applyBindings
  cases hcmd : call.cmd with
  | bound => exact h
  | unbind => dsimp only; rw [unbindSubConn_rebound]; exact hs (.unbind call reply hm hcmd) h
  | bind =>
    dsimp only
    split
    · exact h
    · split
      · exact h
      · rename_i keys _
        cases hg : getRef t call.slot with
        | none => exact h
        | some r => dsimp only; rw [bindAll_rebound]; exact hs (.bindAll call reply keys r hm hcmd hg) h

theorem ind_opDone (id : Nat) (err : ErrKind) (reply : Msg)
    (hs : ∀ {a b : St}, Stage s (.done id err reply) a b → P a → P b) (h : P s) : P (opDone s id err reply).1 := by
  unfold opDone
  cases hf : s.calls.find? (fun c => c.id == id) with
  | none => exact h
  | some call =>
    have hm : call ∈ s.calls := List.mem_of_find?_eq_some hf
    obtain rfl : call.id = id := by simpa using List.find?_some hf
    dsimp only
    cases s.cfg with
    | none => exact h
    | some c =>
      dsimp only
      have h2 := ind_detect hs c call (hs (.completeCall call err reply hm) h)
      generalize detectUnresponsive (completeCall s call) c call err = r at h2 ⊢
      by_cases hnil : (err != .nil) = true
      · rw [if_pos hnil]; exact h2
      · rw [if_neg hnil]
        obtain rfl : err = .nil := by simpa using hnil
        exact ind_applyBindings hm hs h2

theorem ind_opCtxDone (id : Nat) (hs : ∀ {a b : St}, Stage s (.ctxdone id) a b → P a → P b) (h : P s) :
    P (opCtxDone s id).1 := by
  unfold opCtxDone
  cases hf : s.waiters.find? (fun w => w.id == id) with
  | none => exact h
  | some w =>
    have hid : w.id = id := by simpa using List.find?_some hf
    subst hid
    unfold placeWaiter
    cases hg : getRef s w.slot with
    | none => simp only; rw [place_none (by exact hg)]; exact hs (.dropWaiter w (List.mem_of_find?_eq_some hf) hg) h
    | some r =>
      simp only; rw [place_some (by exact hg)]
      exact hs (.ctxDone w r (List.mem_of_find?_eq_some hf) hg) h

theorem ind_resume (call : Nat) (hs : ∀ {a b : St}, Stage s (.resume call) a b → P a → P b) (h : P s) :
    P (opResume s call).1 := by
  unfold opResume
  split
  · exact h
  · rename_i x hx
    have h1 := hs (.release call x (List.mem_of_find?_eq_some hx) (by simpa using List.find?_some hx)) h
    unfold resumeCore
    split
    · exact h1
    · rename_i c hc
      split
      · rename_i hg
        exact (ind_newSubConn hs hc (Or.inr (by simpa using hg)) h1).1
      · exact h1

/-- **every operation is a sequence of stages**: what holds before `stepCore` and is kept by every
    stage holds after it -/
theorem stepCore_induct (op : Op) (hs : ∀ {a b : St}, Stage s op a b → P a → P b) (h : P s) : P (stepCore s op).1 := by
  cases op with
  | ccs ver => exact ind_opCcs ver hs h
  | reserr => exact h
  | scs sc st order => exact ind_opScs sc st order hs h
  | factory n => exact hs (.setFail n) h
  | adv ns => exact hs (.setNow ns) h
  | pick call pn m ctx dl req => exact ind_opPick hs call pn m ctx dl req h
  | ctxdone call => exact ind_opCtxDone call hs h
  | done call err reply => exact ind_opDone call err reply hs h
  | pickHold call pn m ctx dl req =>
    show P (opPickHold s call pn m ctx dl req).1
    unfold opPickHold
    by_cases hbad : (callIdUsed s call || pickerBusy s pn) = true
    · rw [if_pos hbad]; exact h
    rw [if_neg hbad]
    by_cases hw : wouldGrow s pn m ctx req = true
    · rw [if_pos hw]; exact hs (.hold call pn m ctx dl req hw) h
    · rw [if_neg hw]; exact ind_opPick hs call pn m ctx dl req h
  | resume call => exact ind_resume call hs h

/-- … and the same for `step`, which ends with the wake-up pass -/
theorem step_induct (op : Op) (hs : ∀ {a b : St}, Stage s op a b → P a → P b) (h : P s) : P (step s op).1 := by
  rw [step_fst, wakeWaiters_eq]
  exact ind_wake (fun w r hg hw => hs (.wake w r hg hw)) (stepCore s op).1.waiters ((stepCore s op).1, [])
    (fun n => ⟨n, fun _ hx => hx⟩) (stepCore_induct op hs h)

/-- … for an operation whose core is treated directly -/
theorem step_of_core (op : Op) (hw : ∀ {a : St} (w : Waiter) (r : RefSt), getRef a w.slot = some r → P a → P (a.woken w))
    (h : P (stepCore s op).1) : P (step s op).1 := by
  rw [step_fst]; exact wake_induct hw h

theorem run_induct_mem {P : St → Prop} {Q : Op → Prop} (hstep : ∀ s op, Q op → P s → P (step s op).1)
    (ops : List Op) (s : St) (hq : ∀ op ∈ ops, Q op) (h : P s) : P (run s ops) :=
  List.foldlRecOn ops _ h fun s hs op hop => hstep s op (hq op hop) hs

theorem run_induct (ci : CfgInput) (h0 : P (init ci)) (hstep : ∀ s op, P s → P (step s op).1) (ops : List Op) :
    P (run (init ci) ops) :=
  run_induct_mem (Q := fun _ => True) (fun s op _ => hstep s op) ops _ (fun _ _ => trivial) h0

theorem run_stages (ci : CfgInput) (h0 : P (init ci)) (hs : ∀ {s0 s s' : St} {op : Op}, Stage s0 op s s' → P s → P s')
    (ops : List Op) : P (run (init ci) ops) :=
  run_induct ci h0 (fun _ op h => step_induct op hs h) ops

end ops

/-! ### relations across the stages

The stages as the fields of a structure, in the model's own terms and without the side conditions:
enough for relations that hold across a stage wherever it is performed. -/

/-- the stages that neither complete a call nor report a connection state -/
structure StagesA (R : St → St → Prop) : Prop where
  setAddrs : ∀ (s : St) (v : Nat), R s { s with addrs := v }
  setCfg : ∀ s : St, s.cfg = none → R s { s with cfg := some (initialCfg s.cfgIn) }
  setFail : ∀ (s : St) (n : Nat), R s { s with failN := n }
  setNow : ∀ (s : St) (n : Nat), R s { s with now := s.now + n }
  setRr : ∀ s : St, R s { s with rr := (s.rr + 1) % 2 ^ 64 }
  setHeld : ∀ (s : St) (hl : List (Nat × Nat)), R s { s with held := hl }
  addWaiter : ∀ (s : St) (w : Waiter), R s { s with waiters := s.waiters ++ [w] }
  dropWaiter : ∀ (s : St) (id : Nat), R s { s with waiters := s.waiters.filter fun x => x.id != id }
  addSubConn : ∀ s : St, R s (Pool.addSubConn s).1
  updateAll : ∀ (s : St) (scs : List Sc), R s (Pool.updateAll s scs).1
  place : ∀ (s : St) (call : Nat) (slot : Slot) (cmd : Cmd) (loc : Loc) (key : String) (ctx : CtxKind) (dl : Option Int),
    R s (Pool.place s call slot cmd loc key ctx dl).1
  getReady : ∀ (s : St) (c : Cfg) (key : String), R s (getReadySubConnRef s c key).1

structure Stages (R : St → St → Prop) : Prop extends StagesA R where
  refresh : ∀ (s : St) (slot : Slot), R s (Pool.refresh s slot).1
  completeCall : ∀ (s : St) (call : Call), call ∈ s.calls → R s (Pool.completeCall s call)
  detReset : ∀ (s : St) (slot : Slot),
    R s (modRef s slot fun r => { r with lastResp := s.now, deCalls := 0, refreshCnt := 0 })
  deInc : ∀ (s : St) (slot : Slot), R s (modRef s slot fun r => { r with deCalls := satInc r.deCalls })
  bindAll : ∀ (s : St) (keys : List String) (slot : Slot) (r : RefSt), getRef s slot = some r →
    R s (keys.foldl (fun s k => bindSubConn s k r.subConn) s)
  unbind : ∀ (s : St) (key : String), R s (unbindSubConn s key)
  swap : ∀ (s : St) (sc : Sc) (slot : Slot), lookup s.refreshingMap sc = some slot → R s (Pool.swap s sc slot).1
  report : ∀ (s : St) (sc : Sc) (oldS st : CState) (order : List Slot), stateOf s sc = some oldS →
    R s (Pool.report s sc oldS st order).1

structure LeavesA (R : St → St → Prop) : Prop extends StagesA R where
  refl : ∀ s : St, R s s
  trans : ∀ {a b c : St}, R a b → R b c → R a c

structure Leaves (R : St → St → Prop) : Prop extends Stages R where
  refl : ∀ s : St, R s s
  trans : ∀ {a b c : St}, R a b → R b c → R a c

def Keeps (I : St → Prop) (s s' : St) : Prop := I s → I s'

/-- operations that neither complete a call nor report a connection state only use the `StagesA` -/
def quietOp : Op → Prop
  | .scs .. => False
  | .done .. => False
  | _ => True

variable {R : St → St → Prop} {s0 s s' : St} {op : Op}

/-- the stages of a quiet operation need only the `StagesA` (`B`); `hw` joins the two halves of a wake-up: the
    waiter leaves the queue, the call is placed.  In the arms of a completion or a state report `quietOp op`
    is `False` by computation, so there `S id : Stages R`. -/
theorem stage_rel (A : StagesA R) (B : Stages R ∨ quietOp op) (hw : ∀ {a b c : St}, R a b → R b c → R a c)
    (st : Stage s0 op s s') : R s s' := by
  have S : ¬ quietOp op → Stages R := B.resolve_right
  have woken {t : St} (w : Waiter) (r : RefSt) (hg : getRef t w.slot = some r) : R t (t.woken w) := by
    have := A.place { t with waiters := t.waiters.filter fun x => x.id != w.id } w.id w.slot .bind w.loc "" w.ctx w.dl
    rw [place_some (by exact hg)] at this
    exact hw (A.dropWaiter _ w.id) this
  cases st with
  | setAddrs v => exact A.setAddrs _ v
  | setCfg v hc => exact A.setCfg _ hc
  | updateAll v => rw [← updateAll_fst]; exact A.updateAll _ _
  | setFail n => exact A.setFail _ n
  | setNow n => exact A.setNow _ n
  | newFail => exact A.setFail _ _
  | addConn c _ _ ha hf => have := A.addSubConn s; rwa [addSubConn_ok ha hf] at this
  | setRr => exact A.setRr _
  | hold | release => exact A.setHeld _ _
  | addWaiter w => exact A.addWaiter _ w
  | setFallback c key sc l slot r hfb h1 h2 h3 h4 h5 h6 =>
    have := A.getReady s c key; rwa [fallback_new h1 h2 hfb h3 h4 h5 h6] at this
  | place c r hg _ hn =>
    have := A.place s c.id c.slot c.cmd c.loc c.boundKey c.ctx c.dl
    rwa [place_some hg, ← hn] at this
  | ctxDone w r _ hg => exact woken w r hg
  | wake w r hg => exact woken w r hg
  | dropWaiter w => exact A.dropWaiter _ w.id
  | completeCall call err reply hm => exact (S id).completeCall _ call hm
  | detReset _ err reply slot => exact (S id).detReset _ slot
  | deInc _ err reply slot => exact (S id).deInc _ slot
  | startRefresh _ err reply slot r hg hr ha hf => have := (S id).refresh s slot; rwa [refresh_ok hg hr ha hf] at this
  | bindAll call reply ks r _ _ hg => rw [← bindAll_rebound]; exact (S id).bindAll _ ks _ r hg
  | unbind call reply => rw [← unbindSubConn_rebound]; exact (S id).unbind _ _
  | swap sc order slot r hl hg => have := (S id).swap _ sc slot hl; rwa [swap_some hg] at this
  | record sc st order oldS hst _ hp | publish sc st order oldS hst _ hp =>
    have := (S id).report _ sc oldS st order hst; rwa [report_eq, maybePublish_fst, hp] at this

/-- a relation that holds across every primitive stage holds across every operation -/
theorem lift_step (L : Leaves R) (s : St) (op : Op) : R s (step s op).1 :=
  step_induct op (fun st h => L.trans h (stage_rel L.toStagesA (.inl L.toStages) L.trans st)) (L.refl s)

theorem lift_quiet (L : LeavesA R) (s : St) (op : Op) (hq : quietOp op) : R s (step s op).1 :=
  step_induct op (fun st h => L.trans h (stage_rel L.toStagesA (.inr hq) L.trans st)) (L.refl s)

theorem inv_step {I : St → Prop} (S : Stages (Keeps I)) {s : St} (hi : I s) (op : Op) : I (step s op).1 :=
  step_induct op (stage_rel S.toStagesA (.inl S) fun h1 h2 h => h2 (h1 h)) hi

end GcpVerif.Pool
