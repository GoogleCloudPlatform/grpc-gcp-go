/-
Endpoint tables as lists: the lookups of the MultiEndpoint model (`topOf`, `topAvail`, `findEp`) and its
update `updId`.
-/
import GcpVerif.Model.ME
import GcpVerif.Spec.ME
namespace GcpVerif.ME

theorem foldl_better (l : List Ep) (a : Ep) : ∃ t, l.foldl better (some a) = some t ∧
    (t = a ∨ t ∈ l) ∧ t.prio ≤ a.prio ∧ ∀ e ∈ l, t.prio ≤ e.prio := by
  induction l generalizing a with
  | nil => exact ⟨a, rfl, Or.inl rfl, Nat.le_refl _, fun _ h => nomatch h⟩
  | cons x xs ih =>
    rw [List.foldl_cons, better]
    by_cases hgt : a.prio > x.prio
    · obtain ⟨t, ht, hm, hle, hmin⟩ := ih x
      rw [if_pos hgt]
      exact ⟨t, ht, Or.inr (hm.elim (fun h => h ▸ List.mem_cons_self) (List.mem_cons_of_mem _)),
        Nat.le_trans hle (Nat.le_of_lt hgt), List.forall_mem_cons.mpr ⟨hle, hmin⟩⟩
    · obtain ⟨t, ht, hm, hle, hmin⟩ := ih a
      rw [if_neg hgt]
      exact ⟨t, ht, hm.imp_right (List.mem_cons_of_mem _), hle,
        List.forall_mem_cons.mpr ⟨Nat.le_trans hle (Nat.le_of_not_lt hgt), hmin⟩⟩

theorem topOf_nil : topOf [] = none := rfl

theorem topOf_spec (l : List Ep) :
    match topOf l with
    | none => l = []
    | some t => t ∈ l ∧ ∀ e ∈ l, t.prio ≤ e.prio := by
  cases l with
  | nil => rfl
  | cons x xs =>
    obtain ⟨t, ht, hm, hle, hmin⟩ := foldl_better xs x
    rw [show topOf (x :: xs) = some t from ht]
    exact ⟨hm.elim (fun h => h ▸ List.mem_cons_self) (List.mem_cons_of_mem _), List.forall_mem_cons.mpr ⟨hle, hmin⟩⟩

theorem topOf_eq_none {l : List Ep} : topOf l = none ↔ l = [] :=
  ⟨fun h => by have := topOf_spec l; rwa [h] at this, fun h => h ▸ rfl⟩

theorem topOf_mem {l : List Ep} {t : Ep} (h : topOf l = some t) : t ∈ l := by
  have := topOf_spec l; rw [h] at this; exact this.1

theorem topOf_min {l : List Ep} {t : Ep} (h : topOf l = some t) : ∀ e ∈ l, t.prio ≤ e.prio := by
  have := topOf_spec l; rw [h] at this; exact this.2

theorem topAvail_mem {eps : List Ep} {t : Ep} (h : topAvail eps = some t) :
    t ∈ eps ∧ t.status = .available := by
  simpa only [List.mem_filter, isAvail, beq_iff_eq] using topOf_mem h

theorem topAvail_min {eps : List Ep} {t : Ep} (h : topAvail eps = some t) :
    ∀ e ∈ eps, e.status = .available → t.prio ≤ e.prio := by
  intro e he ha
  exact topOf_min h e (by simp [isAvail, he, ha])

theorem topAvail_eq_none {eps : List Ep} : topAvail eps = none ↔ ∀ e ∈ eps, e.status ≠ .available := by
  simp only [topAvail, topOf_eq_none, List.filter_eq_nil_iff, isAvail, beq_iff_eq, ne_eq]

theorem anyAvail_eq_false {eps : List Ep} : anyAvail eps = false ↔ ∀ e ∈ eps, e.status ≠ .available := by
  simp only [anyAvail, List.any_eq_false, isAvail, beq_iff_eq, ne_eq]

theorem anyAvail_iff_topAvail {eps : List Ep} : anyAvail eps = true ↔ ∃ t, topAvail eps = some t := by
  rw [← Option.isSome_iff_exists, ← Bool.not_eq_false, anyAvail_eq_false, ← topAvail_eq_none]
  cases topAvail eps <;> simp

theorem higherAvail_eq {eps : List Ep} {t : Ep} (hT : topAvail eps = some t) (p : Nat) :
    higherAvail eps p = decide (t.prio < p) := by
  have hm := topAvail_mem hT
  rw [Bool.eq_iff_iff]
  simp only [higherAvail, List.any_eq_true, Bool.and_eq_true, decide_eq_true_eq]
  constructor
  · rintro ⟨e, he, hav, hlt⟩
    exact Nat.lt_of_le_of_lt (topAvail_min hT e he (by simpa [isAvail] using hav)) hlt
  · intro hlt
    exact ⟨t, hm.1, by simp [isAvail, hm.2], hlt⟩

theorem findEp_some {eps : List Ep} {id : String} {e : Ep} (h : findEp eps id = some e) :
    e ∈ eps ∧ e.id = id :=
  ⟨List.mem_of_find?_eq_some h, by simpa using List.find?_some h⟩

theorem findEp_none {eps : List Ep} {id : String} : findEp eps id = none ↔ ∀ e ∈ eps, e.id ≠ id := by
  simp only [findEp, List.find?_eq_none, beq_iff_eq, ne_eq]

theorem findEp_isSome_of_mem {eps : List Ep} {x : Ep} {id : String} (hx : x ∈ eps) (hid : x.id = id) :
    (findEp eps id).isSome = true := by
  cases h : findEp eps id with
  | none => exact absurd hid (findEp_none.mp h x hx)
  | some _ => rfl

theorem ids_contains (eps : List Ep) (id : String) : (ids eps).contains id = (findEp eps id).isSome := by
  rw [Bool.eq_iff_iff, findEp, List.find?_isSome]
  simp only [ids, List.contains_iff_mem, List.mem_map, beq_iff_eq]

theorem findEp_of_mem {eps : List Ep} (hinj : ∀ a ∈ eps, ∀ b ∈ eps, a.id = b.id → a = b)
    {e : Ep} (he : e ∈ eps) : findEp eps e.id = some e := by
  cases h : findEp eps e.id with
  | none => exact absurd rfl (findEp_none.mp h e he)
  | some x =>
    have := findEp_some h
    rw [hinj x this.1 e he this.2]

theorem findEp_map_id (l : List Ep) (id : String) (f : Ep → Ep) (hf : ∀ y, (f y).id = y.id) :
    findEp (l.map f) id = (findEp l id).map f := by
  have : ((fun e : Ep => e.id == id) ∘ f) = fun e => e.id == id := funext fun y => by rw [Function.comp, hf]
  rw [findEp, List.find?_map, this, findEp]

theorem idInj_map {l : List Ep} (f : Ep → Ep) (hf : ∀ e, (f e).id = e.id)
    (h : ∀ a ∈ l, ∀ b ∈ l, a.id = b.id → a = b) : ∀ a ∈ l.map f, ∀ b ∈ l.map f, a.id = b.id → a = b := by
  intro a ha b hb hab
  obtain ⟨a0, ha0, rfl⟩ := List.mem_map.mp ha
  obtain ⟨b0, hb0, rfl⟩ := List.mem_map.mp hb
  rw [hf, hf] at hab
  rw [h a0 ha0 b0 hb0 hab]

theorem prio_ne {eps : List Ep} (hid : ∀ a ∈ eps, ∀ b ∈ eps, a.id = b.id → a = b)
    (hpr : ∀ a ∈ eps, ∀ b ∈ eps, a.prio = b.prio → a.id = b.id) {a b : Ep} (ha : a ∈ eps) (hb : b ∈ eps)
    (hne : a ≠ b) : a.prio ≠ b.prio :=
  fun h => hne (hid a ha b hb (hpr a ha b hb h))

theorem inj_of_nodup_map {α β : Type} (f : α → β) {l : List α} (h : (l.map f).Nodup) :
    ∀ a ∈ l, ∀ b ∈ l, f a = f b → a = b := by
  have hp := List.pairwise_map.mp h
  intro a ha b hb
  exact List.Pairwise.forall_of_forall_of_flip (R := fun a b => f a = f b → a = b) (fun _ _ _ => rfl)
    (hp.imp fun hne heq => absurd heq hne) (hp.imp fun hne heq => absurd heq.symm hne) ha hb

theorem mem_updId_iff {l : List Ep} {id : String} {f : Ep → Ep} {y : Ep} :
    y ∈ updId l id f ↔ (∃ x ∈ l, x.id = id ∧ y = f x) ∨ (y ∈ l ∧ y.id ≠ id) := by
  simp only [updId, List.mem_map]
  constructor
  · rintro ⟨x, hx, rfl⟩
    by_cases h : x.id = id
    · exact Or.inl ⟨x, hx, h, if_pos (beq_iff_eq.mpr h)⟩
    · rw [if_neg (mt beq_iff_eq.mp h)]; exact Or.inr ⟨hx, h⟩
  · rintro (⟨x, hx, h, rfl⟩ | ⟨hy, h⟩)
    · exact ⟨x, hx, if_pos (beq_iff_eq.mpr h)⟩
    · exact ⟨y, hy, if_neg (mt beq_iff_eq.mp h)⟩

theorem mem_updId_of_inj {l : List Ep} (hid : ∀ a ∈ l, ∀ b ∈ l, a.id = b.id → a = b) {e : Ep} (he : e ∈ l)
    {f : Ep → Ep} {y : Ep} (h : y ∈ updId l e.id f) : y = f e ∨ (y ∈ l ∧ y.id ≠ e.id) :=
  (mem_updId_iff.mp h).imp_left fun ⟨x, hx, hxe, hy⟩ => hid x hx e he hxe ▸ hy

end GcpVerif.ME
