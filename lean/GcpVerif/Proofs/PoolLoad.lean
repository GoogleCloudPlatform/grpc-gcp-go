/-
C02 at the level of one call, for every state: a call that is not keyed (no affinity key, or a key
nobody is bound to) and is not a round-robin BIND, issued on any published picker, is — if it is
placed at all — placed on a slot of *that picker's* ready list whose stream count is minimal among the
slots of that list (`plain_pick_least_loaded`); and every picker lists, at the moment it is published, exactly
the pool slots recorded READY (`published_lists_ready`).  C03 at reach level: the plain-pick path adds a channel
only under load counted from the history of placements and completions (`growth_needs_real_load`).
-/
import GcpVerif.Proofs.PoolReady
import GcpVerif.Proofs.PoolStreams
namespace GcpVerif.Pool

theorem placed_of_finishPick {s : St} {r : Option Slot} {ev : List Event} {call : Nat} {cmd : Cmd} {loc : Loc}
    {key : String} {ctx : CtxKind} {dl : Option Int} {sc : Sc}
    (h : .placed sc ∈ (finishPick s r ev call cmd loc key ctx dl).2) :
    .placed sc ∈ ev ∨ ∃ slot, r = some slot ∧ subAt s slot = some sc := by
  cases r with
  | none => simpa [finishPick] using h
  | some slot =>
    simp only [finishPick] at h
    cases hg : getRef s slot with
    | none => rw [place_none hg] at h; exact Or.inl (by simpa using h)
    | some x =>
      rw [place_some hg] at h
      simp only [List.mem_append, List.mem_singleton, Event.placed.injEq] at h
      exact h.imp id fun e => ⟨slot, rfl, by rw [e]; exact getRef_subAt hg⟩

theorem addSubConn_no_placed (s : St) (x : Sc) : .placed x ∉ (addSubConn s).2.2 := by
  rcases addSubConn_cases s with e | ⟨_, e⟩ | ⟨_, _, e⟩ <;> rw [e] <;> simp

theorem newSubConn_no_placed (s : St) (x : Sc) : .placed x ∉ (newSubConn s).2 := by
  unfold newSubConn
  split
  · simp
  · exact addSubConn_no_placed s x

theorem getLeastBusy_spec {s : St} {c : Cfg} {l : List Slot} {s' : St} {m : Slot} {ev : List Event}
    (h : getLeastBusy s c l = (s', some m, ev)) :
    s' = s ∧ m ∈ l ∧ ∀ j ∈ l, streamsOf s m ≤ streamsOf s j := by
  rcases getLeastBusy_cases s c l with e | ⟨_, _, _, _, e⟩ <;> rw [e] at h
  · obtain ⟨rfl, h2⟩ := Prod.mk.inj h
    exact ⟨rfl, leastBusy_spec (Prod.mk.inj h2).1⟩
  · cases h

theorem getLeastBusy_no_placed (s : St) (c : Cfg) (l : List Slot) (x : Sc) : .placed x ∉ (getLeastBusy s c l).2.2 := by
  rcases getLeastBusy_cases s c l with e | ⟨_, _, _, _, e⟩ <;> rw [e]
  · simp
  · exact newSubConn_no_placed s x

/-- **C02** an unkeyed call, or a call whose key is not bound, on the picker published as number `pn`
    (current or superseded): if it is placed, it is placed on the connection of a slot of that picker's
    ready list with the fewest active streams in that list — before the call itself is counted -/
theorem plain_pick_least_loaded {s : St} {c : Cfg} (hc : s.cfg = some c) (call pn : Nat) (m : String)
    (ctx : CtxKind) (dl : Option Int) (req : Req) {st : CState} {l : List Slot}
    (hp : s.published[pn]? = some (st, .gcp l))
    {cmd : Cmd} {loc : Loc} {key : String} (hrc : resolveCall c m ctx req = (cmd, loc, some key))
    (hrr : (cmd == .bind && c.rr) = false) (hkey : key = "" ∨ lookup s.affinity key = none)
    {sc : Sc} (hplaced : .placed sc ∈ (opPick s call pn m ctx dl req).2) :
    ∃ slot ∈ l, (∀ j ∈ l, streamsOf s slot ≤ streamsOf s j) ∧ subAt s slot = some sc := by
  -- the keyed lookup is skipped or reports the key unknown: the slot comes from the least-loaded path
  have hcs : chooseSlot s c l key = getLeastBusy s c l := by
    unfold chooseSlot
    split
    · rcases hkey with hk | hk
      · subst hk; contradiction
      · rw [unknown_key hk]
    · rfl
  by_cases hfree : (callIdUsed s call || pickerBusy s pn) = true
  · simp [opPick, hfree] at hplaced
  by_cases hne : l.isEmpty = true
  · simp [opPick, hfree, hp, hc, hne] at hplaced
  simp only [opPick, hfree, hp, hc, hne, hrc, hrr, Bool.false_eq_true, ↓reduceIte, hcs] at hplaced
  have hnp := getLeastBusy_no_placed s c l sc
  generalize hg : getLeastBusy s c l = r at hplaced hnp
  obtain ⟨s1, o, ev⟩ := r
  rcases placed_of_finishPick hplaced with h1 | ⟨slot, rfl, hsub⟩
  · exact absurd h1 hnp
  · obtain ⟨rfl, hmem, hmin⟩ := getLeastBusy_spec hg
    exact ⟨slot, hmem, hmin, hsub⟩

/-- **C02** every picker lists, at the moment it is published, exactly the pool slots whose connection is
    recorded READY then (a published pair is the last one right after its publication) -/
theorem published_lists_ready (ci : CfgInput) (ops : List Op) (st : CState) (l : List Slot)
    (hq : (run (init ci) ops).published.getLast? = some (st, .gcp l)) :
    l.Perm (readySlots (run (init ci) ops)) :=
  rdy_run ci ops l (published_matches_pool ci ops (st, .gcp l) hq).2.symm

theorem streamsOf_eq_inflight (ci : CfgInput) (ops : List Op) (j : Slot) (hj : j < (run (init ci) ops).refs.length) :
    streamsOf (run (init ci) ops) j = ((((run (init ci) ops).calls.map (·.slot)).filter (· == j)).length : Int) := by
  have hr := List.getElem?_eq_getElem hj
  rw [streamsOf, getRef, hr]
  exact ((run_inv ci ops).cnt hr).trans (congrArg Nat.cast (inflight_eq _ j))

/-- **C03 (reach level)** after any history, the plain-pick path adds a channel only if every channel of
    the ready list it scans — and every READY channel of the pool, F37 — really carries at least `watermark`
    calls whose completion has not run (the count is taken from the history of placements and completions,
    not from a counter), the pool is below maxSize and no connection is idle or connecting — and then the
    call is told to wait -/
theorem growth_needs_real_load (ci : CfgInput) (ops : List Op) {s' : St} {c : Cfg} {l : List Slot}
    {r : Option Slot} {ev : List Event}
    (h : getLeastBusy (run (init ci) ops) c l = (s', r, ev)) (hev : ev ≠ []) :
    r = none ∧
    (∀ j ∈ l, j < (run (init ci) ops).refs.length →
      c.wm ≤ (((run (init ci) ops).calls.map (·.slot)).filter (· == j)).length) ∧
    (c.max = 0 ∨ (run (init ci) ops).scRefs.length < c.max) ∧
    (run (init ci) ops).scStates.any (fun p => p.2 == .connecting || p.2 == .idle) = false ∧
    -- (F37) … and so does every READY channel of the pool, listed by the picker that was used or not
    ((run (init ci) ops).cfg = some c → ∀ j r, (run (init ci) ops).refs[j]? = some r →
      lookup (run (init ci) ops).scStates r.subConn = some .ready →
      c.wm ≤ (((run (init ci) ops).calls.map (·.slot)).filter (· == j)).length) := by
  obtain ⟨h1, h2, h3, h4, h5⟩ := growth_only_when_saturated h hev
  refine ⟨h1, ?_, h3, h4, ?_⟩
  · intro j hj hlt
    have := h2 j hj
    rw [streamsOf_eq_inflight ci ops j hlt] at this
    exact_mod_cast this
  · intro hc j r hr hst
    have hlt : j < (run (init ci) ops).refs.length := (List.getElem?_eq_some_iff.mp hr).1
    have hsat := all_ready_saturated hc h5 r (List.mem_of_getElem? hr) hst
    have hso : streamsOf (run (init ci) ops) j = r.streamsCnt := by simp [streamsOf, getRef, hr]
    rw [← hso, streamsOf_eq_inflight ci ops j hlt] at hsat
    exact_mod_cast hsat

end GcpVerif.Pool
