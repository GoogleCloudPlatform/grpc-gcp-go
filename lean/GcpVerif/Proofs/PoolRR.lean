/-
C09: round-robin fairness.  While the pool composition is unchanged, the j-th BIND pick is assigned
slot `rrSlot j n` (Spec/Pool.lean; the correspondence check ties this formula to the code on every
run, monitor `rr_assign`).  Here: a window of consecutive BIND picks inside which the cursor does not
wrap is fair (`rr_fair`).  The cursor is 64 bits wide since F32 (per-run fact `Ties.rr_cursor_width`),
so the hypothesis `m + n·k ≤ 2^64` excludes no execution that can exist (2^64 BIND picks: 584 years at
one per nanosecond); with the 32-bit cursor the code had before, the wrap came after 2^32 picks — about
50 days at 1000 session creations per second — and broke the cycle for every n that is not a power of
two (was K1; the arithmetic: `rr_unfair_at_wrap`).
-/
import GcpVerif.Spec.Pool
import GcpVerif.Model.Pool
namespace GcpVerif.Pool

theorem countP_window (P : Nat → Bool) (n : Nat) (hP : ∀ x, P (x + n) = P x) (a : Nat) :
    (List.range' a n).countP P = (List.range n).countP P := by
  induction a with
  | zero => rw [List.range_eq_range']
  | succ a ih =>
    have h : a :: List.range' (a + 1) n = List.range' a n ++ [a + 1 * n] :=
      List.range'_succ.symm.trans List.range'_concat
    replace h := congrArg (List.countP P) h
    rw [List.countP_cons, List.countP_append, List.countP_singleton, Nat.one_mul, hP, ih] at h
    exact Nat.add_right_cancel h

theorem countP_windows (P : Nat → Bool) (n : Nat) (hP : ∀ x, P (x + n) = P x) (a k : Nat) :
    (List.range' a (n * k)).countP P = k * (List.range n).countP P := by
  induction k with
  | zero => rw [Nat.mul_zero, Nat.zero_mul]; rfl
  | succ k ih =>
    rw [Nat.mul_succ, ← List.range'_append_1, List.countP_append, ih, countP_window P n hP, Nat.succ_mul]

theorem countP_residue {n i : Nat} (hi : i < n) : (List.range n).countP (fun x => x % n == i) = 1 := by
  rw [List.countP_congr fun x hx => by rw [Nat.mod_eq_of_lt (List.mem_range.mp hx)],
    ← List.count_eq_countP, List.count_range, if_pos hi]

/-- n·k consecutive cursor values hit every slot exactly k times -/
theorem rr_fair_nowrap (n k a i : Nat) (hi : i < n) :
    (List.range (n * k)).countP (fun j => (a + j) % n == i) = k := by
  have h := countP_windows (fun x => x % n == i) n (fun x => by rw [Nat.add_mod_right]) a k
  rw [List.range'_eq_map_range, List.countP_map, countP_residue hi, Nat.mul_one] at h
  exact h

/-- n consecutive cursor values hit every slot exactly once -/
theorem window_hits_once (n a i : Nat) (hi : i < n) :
    (List.range n).countP (fun j => (a + j) % n == i) = 1 := by
  have h := rr_fair_nowrap n 1 a i hi
  rwa [Nat.mul_one] at h

/-- the cursor starts at 2^64-1, so within the first 2^64 BIND picks the j-th one gets slot (j-1) mod n -/
theorem rrSlot_early (j n : Nat) (h1 : 1 ≤ j) (h2 : j ≤ 2 ^ 64) : rrSlot j n = (j - 1) % n := by
  unfold rrSlot
  rw [Nat.add_comm, ← Nat.add_sub_assoc Nat.one_le_two_pow, Nat.sub_add_comm h1, Nat.add_mod_right,
    Nat.mod_eq_of_lt (Nat.lt_of_lt_of_le (Nat.sub_lt h1 Nat.one_pos) h2)]

/-- **C09** any n·k consecutive BIND picks over an unchanged n-slot pool (picks m+1 … m+n·k, all
    within the first 2^64 picks) put exactly k on each slot, independent of load -/
theorem rr_fair (n k m i : Nat) (hi : i < n) (hw : m + n * k ≤ 2 ^ 64) :
    (List.range (n * k)).countP (fun t => rrSlot (m + 1 + t) n == i) = k := by
  refine (List.countP_congr fun x hx => ?_).trans (rr_fair_nowrap n k m i hi)
  have hx' : x < n * k := List.mem_range.mp hx
  rw [Nat.add_right_comm m 1 x,
    rrSlot_early (m + x + 1) n (Nat.le_add_left 1 (m + x)) (Nat.le_trans (Nat.add_le_add_left hx' m) hw),
    Nat.add_sub_cancel]

/-- the cursor after j round-robin BIND picks -/
def cursorAfter : Nat → Nat
  | 0 => 2 ^ 64 - 1
  | j + 1 => (cursorAfter j + 1) % 2 ^ 64

theorem rr_cursor (j : Nat) : cursorAfter j = (2 ^ 64 - 1 + j) % 2 ^ 64 := by
  induction j with
  | zero => rfl
  | succ j ih =>
    unfold cursorAfter
    rw [ih, Nat.mod_add_mod]
    rfl

/-- a round-robin BIND pick advances the cursor by one and is assigned (placed on, or made to wait
    for) slot `cursor mod n`; with `rr_cursor` the j-th such pick gets `rrSlot j n` -/
theorem pickRR_assigns (s : St) (call : Nat) (loc : Loc) (ctx : CtxKind) (dl : Option Int) (hne : s.refs ≠ []) :
    (pickRR s call loc ctx dl).1.rr = (s.rr + 1) % 2 ^ 64 ∧
    ((∃ w, (pickRR s call loc ctx dl).1.waiters = s.waiters ++ [w] ∧ w.slot = (s.rr + 1) % 2 ^ 64 % s.refs.length ∧ w.id = call) ∨
     (∃ c, (pickRR s call loc ctx dl).1.calls = s.calls ++ [c] ∧ c.slot = (s.rr + 1) % 2 ^ 64 % s.refs.length ∧ c.id = call)) := by
  have he : s.refs.isEmpty = false := by
    cases hr : s.refs with
    | nil => exact absurd hr hne
    | cons _ _ => rfl
  generalize hout : pickRR s call loc ctx dl = out
  unfold pickRR at hout
  rw [he, if_neg Bool.false_ne_true] at hout
  extract_lets rr slot s1 at hout
  by_cases hready : slotReady s1 slot = true
  · rw [if_pos hready] at hout
    -- the slot is ready, hence exists: the call is placed there
    unfold slotReady at hready
    cases hg : getRef s1 slot with
    | none => rw [hg] at hready; cases hready
    | some r =>
      simp only [finishPick, place, hg] at hout
      subst hout
      exact ⟨rfl, .inr ⟨_, rfl, rfl, rfl⟩⟩
  · rw [if_neg hready] at hout
    subst hout
    exact ⟨rfl, .inl ⟨_, rfl, rfl, rfl⟩⟩

/-- the arithmetic of a wrap (not reachable: it takes 2^64 BIND picks; with the 32-bit cursor before F32
    it took 2^32): when the cursor wraps and n does not divide the modulus, two consecutive picks land
    on the same slot -/
theorem rr_unfair_at_wrap : rrSlot (2 ^ 64) 3 = 0 ∧ rrSlot (2 ^ 64 + 1) 3 = 0 ∧ rrSlot (2 ^ 64 - 1) 3 = 2 := by
  decide

/-- non-vacuity: 3 slots, picks 5 … 10 (two rounds): slot 1 is hit twice -/
example : (List.range (3 * 2)).countP (fun t => rrSlot (4 + 1 + t) 3 == 1) = 2 := by decide

end GcpVerif.Pool
