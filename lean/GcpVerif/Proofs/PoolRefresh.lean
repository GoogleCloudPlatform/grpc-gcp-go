/-
C07 at Reach level: a slot is marked as refreshing exactly while one replacement connection for
it exists; a second refresh of the slot cannot start before the swap; the swap hands the slot —
with its stream count, its key count and its position — to the replacement.
-/
import GcpVerif.Proofs.PoolTables
namespace GcpVerif.Pool

def flagAt (s : St) (slot : Slot) : Option Bool := (s.refs[slot]?).map (·.refreshing)

structure Refr (s : St) : Prop where
  rmSlot : ∀ sc slot, lookup s.refreshingMap sc = some slot → flagAt s slot = some true
  rmInj : ∀ sc sc' slot, lookup s.refreshingMap sc = some slot → lookup s.refreshingMap sc' = some slot → sc = sc'
  flagRm : ∀ slot, flagAt s slot = some true → ∃ sc, lookup s.refreshingMap sc = some slot

theorem flagAt_of_getRef {s : St} {slot : Slot} {r : RefSt} (hg : getRef s slot = some r) :
    flagAt s slot = some r.refreshing := by
  unfold getRef at hg; simp only [flagAt, hg, Option.map_some]

theorem flagAt_modify_self {s s' : St} {slot : Slot} {f : RefSt → RefSt} {r : RefSt} {b : Bool}
    (h : s'.refs = s.refs.modify slot f) (hg : getRef s slot = some r) (hb : (f r).refreshing = b) : flagAt s' slot = some b := by
  unfold getRef at hg
  simp only [flagAt, h, List.getElem?_modify_eq, hg, Option.map_eq_map, Option.map_some, hb]

theorem flagAt_modify_ne {s s' : St} {slot j : Slot} {f : RefSt → RefSt} (h : s'.refs = s.refs.modify slot f)
    (hj : slot ≠ j) : flagAt s' j = flagAt s j := by
  simp only [flagAt, h, List.getElem?_modify_ne _ _ hj]

theorem flagAt_addConn (s : St) (j : Slot) : flagAt s.addConn j = some true ↔ flagAt s j = some true := by
  simp only [flagAt, St.addConn, List.getElem?_append]
  split
  · rfl
  · rename_i hlt
    rw [List.getElem?_eq_none (Nat.le_of_not_lt hlt)]
    cases j - s.refs.length <;> simp

theorem refr_frame {s : St} (h : Refr s) {refs : List RefSt} (ef : refs.map (·.refreshing) = s.refs.map (·.refreshing))
    {cfgIn cfg addrs nReady nConn nTF aggr affinity fallback scStates scRefs rr picker nextSc failN scAddrs removed published now
      calls waiters held} :
    Refr { s with cfgIn, cfg, addrs, nReady, nConn, nTF, aggr, affinity, fallback, scStates, scRefs, rr, picker, nextSc, failN,
                  scAddrs, removed, published, now, calls, waiters, held, refs } :=
  have e : ∀ slot, (refs[slot]?).map (·.refreshing) = flagAt s slot := fun slot => by
    simp only [flagAt, ← List.getElem?_map, ef]
  ⟨fun sc slot hl => (e slot).trans (h.rmSlot sc slot hl), h.rmInj, fun slot hf => h.flagRm slot ((e slot).symm.trans hf)⟩

theorem refr_addConn {s : St} (h : Refr s) : Refr s.addConn :=
  ⟨fun sc j hl => (flagAt_addConn s j).mpr (h.rmSlot sc j hl), h.rmInj,
   fun j hf => h.flagRm j ((flagAt_addConn s j).mp hf)⟩

theorem refr_startRefresh {s : St} (h : Refr s) (hfresh : s.nextSc ∉ keys s.refreshingMap) {slot : Slot} {r : RefSt}
    (hg : getRef s slot = some r) (hr : r.refreshing = false) : Refr (s.startRefresh slot) := by
  have hnone : ∀ x, lookup s.refreshingMap x ≠ some slot := fun x hx => by
    have := h.rmSlot x slot hx
    rw [flagAt_of_getRef hg, hr] at this; cases this
  have hl : ∀ x, lookup (s.startRefresh slot).refreshingMap x = if s.nextSc = x then some slot else lookup s.refreshingMap x :=
    fun x => lookup_insert _ _ _ _
  have hself : flagAt (s.startRefresh slot) slot = some true := flagAt_modify_self rfl hg rfl
  have hne : ∀ j, slot ≠ j → flagAt (s.startRefresh slot) j = flagAt s j := fun j hj => flagAt_modify_ne rfl hj
  constructor
  · intro x j hx
    rw [hl] at hx
    split at hx
    · cases hx; exact hself
    · rw [hne j fun e => hnone x (e ▸ hx)]; exact h.rmSlot x j hx
  · intro x x' j h1 h2
    rw [hl] at h1 h2
    split at h1 <;> split at h2
    · rename_i e e'; exact e.symm.trans e'
    · cases h1; exact absurd h2 (hnone x')
    · cases h2; exact absurd h1 (hnone x)
    · exact h.rmInj x x' j h1 h2
  · intro j hf
    by_cases hj : slot = j
    · exact ⟨s.nextSc, by rw [hl, if_pos rfl, hj]⟩
    · rw [hne j hj] at hf
      obtain ⟨x, hx⟩ := h.flagRm j hf
      have hx' : s.nextSc ≠ x := fun e => hfresh (e ▸ mem_keys_of_lookup hx)
      exact ⟨x, by rw [hl, if_neg hx']; exact hx⟩

theorem refr_swapped {s : St} (h : Refr s) {sc : Sc} {slot : Slot} {r : RefSt} (hl : lookup s.refreshingMap sc = some slot)
    (hg : getRef s slot = some r) (old : Sc) : Refr (s.swapped sc slot old) := by
  have he : ∀ {x j}, lookup (s.swapped sc slot old).refreshingMap x = some j ↔ sc ≠ x ∧ lookup s.refreshingMap x = some j :=
    lookup_erase_eq_some
  have hself : flagAt (s.swapped sc slot old) slot = some false := flagAt_modify_self rfl hg rfl
  have hne : ∀ j, slot ≠ j → flagAt (s.swapped sc slot old) j = flagAt s j := fun j hj => flagAt_modify_ne rfl hj
  constructor
  · intro x j hx
    obtain ⟨hx', hx⟩ := he.mp hx
    rw [hne j fun e => hx' (h.rmInj sc x slot hl (e ▸ hx))]; exact h.rmSlot x j hx
  · intro x x' j h1 h2
    exact h.rmInj x x' j (he.mp h1).2 (he.mp h2).2
  · intro j hf
    by_cases hj : slot = j
    · rw [← hj, hself] at hf; cases hf
    · rw [hne j hj] at hf
      obtain ⟨x, hx⟩ := h.flagRm j hf
      exact ⟨x, he.mpr ⟨fun e => hj (Option.some.inj ((e ▸ hl).symm.trans hx)), hx⟩⟩

theorem refr_stage {s0 s s' : St} {op : Op} (st : Stage s0 op s s') (t : Tables s) (h : Refr s) : Refr s' := by
  cases st with
  | addConn => exact refr_addConn h
  | startRefresh _ _ _ slot r hg hr =>
    -- the new connection id is the allocation counter, the ids of the replacements are below it
    exact refr_startRefresh h (fun hk => Nat.lt_irrefl _ (t.freshF _ hk).1) hg hr
  | swap sc _ slot r hl hg => exact refr_swapped h hl hg _
  | place | ctxDone | wake | completeCall | detReset | deInc =>
    exact refr_frame h (map_modify_of (·.refreshing) (by intro; rfl) _ _)
  | bindAll call reply ks r => exact refr_frame h (bindAll_refs_map (·.refreshing) (fun _ _ => rfl) _ ks _)
  | unbind call reply => exact refr_frame h (unbind_refs_map (·.refreshing) (fun _ _ => rfl) _ _)
  | _ => exact refr_frame h rfl

theorem refr_init (ci : CfgInput) : Refr (init ci) :=
  ⟨fun _ _ hl => (nomatch hl), fun _ _ _ hl => (nomatch hl), fun _ hf => (nomatch hf)⟩

theorem refr_run (ci : CfgInput) (ops : List Op) : Refr (run (init ci) ops) :=
  run_with_tables refr_init refr_stage ci ops

/-- **C07** after every history: a slot is marked as being refreshed exactly when a replacement
    connection for it exists, and there is never more than one replacement per slot — a refresh
    creates exactly one replacement and cannot be started again before the swap -/
theorem one_replacement_per_slot (ci : CfgInput) (ops : List Op) :
    (∀ sc slot, lookup (run (init ci) ops).refreshingMap sc = some slot → flagAt (run (init ci) ops) slot = some true) ∧
    (∀ sc sc' slot, lookup (run (init ci) ops).refreshingMap sc = some slot →
        lookup (run (init ci) ops).refreshingMap sc' = some slot → sc = sc') ∧
    (∀ slot, flagAt (run (init ci) ops) slot = some true → ∃ sc, lookup (run (init ci) ops).refreshingMap sc = some slot) :=
  ⟨(refr_run ci ops).rmSlot, (refr_run ci ops).rmInj, (refr_run ci ops).flagRm⟩

/-- refresh(ref) on a slot that is already being refreshed does nothing (state and events) -/
theorem refresh_in_progress_noop (s : St) (slot : Slot) (r : RefSt) (hg : getRef s slot = some r)
    (hr : r.refreshing = true) : refresh s slot = (s, []) := refresh_once hg hr

/-- the swap hands the slot over: same position, same stream count, same key count; detector reset;
    the old connection is removed exactly once (one `remove` event) -/
theorem swap_takes_over (s : St) (sc : Sc) (slot : Slot) (r : RefSt) (hg : getRef s slot = some r) :
    getRef (swap s sc slot).1 slot = some { r with subConn := sc, deCalls := 0, lastResp := s.now, refreshing := false,
                                                   refreshCnt := r.refreshCnt + 1 } ∧
    (swap s sc slot).2 = [.remove r.subConn] ∧
    lookup (swap s sc slot).1.scRefs sc = some slot := by
  rw [swap_some hg]
  refine ⟨?_, rfl, lookup_insert_self _ _ _⟩
  unfold getRef at hg ⊢
  simp only [St.swapped, List.getElem?_modify_eq, hg, Option.map_eq_map, Option.map_some]

theorem scsPrologue_not_ready {s : St} {sc : Sc} {slot : Slot} {st : CState} (h : lookup s.refreshingMap sc = some slot)
    (hr : st ≠ .ready) : scsPrologue s sc st = none := by
  simp [scsPrologue, h, hr]

theorem replacement_not_ready {s : St} {sc : Sc} {slot : Slot} {st : CState} (order : List Slot)
    (h : lookup s.refreshingMap sc = some slot) (hr : st ≠ .ready) :
    opScs s sc st order = (s, (if st == .idle then [.connect sc] else []) ++ [.res "ok"]) := by
  simp only [opScs, scsPrologue_not_ready h hr]

/-- **C07 (F23)** a replacement connection that reports IDLE before it was ever READY (its connection
    attempt failed) is told to connect again, and nothing else happens: the refresh stays in progress
    and can still complete -/
theorem replacement_idle_reconnects (s : St) (sc : Sc) (slot : Slot) (order : List Slot)
    (h : lookup s.refreshingMap sc = some slot) :
    opScs s sc .idle order = (s, [.connect sc, .res "ok"]) :=
  replacement_not_ready order h (by decide)

/-- … and any other report short of READY for a replacement changes nothing at all -/
theorem replacement_not_ready_ignored (s : St) (sc : Sc) (slot : Slot) (st : CState) (order : List Slot)
    (h : lookup s.refreshingMap sc = some slot) (hr : st ≠ .ready) (hi : st ≠ .idle) :
    opScs s sc st order = (s, [.res "ok"]) := by
  rw [replacement_not_ready order h hr, beq_eq_false_iff_ne.mpr hi]; rfl

end GcpVerif.Pool
