/-
C04, for every reachable state and without any assumption about gRPC's side of the contract: the ready list of
the current picker is a permutation of the pool slots whose connection is recorded READY (`Rdy`, `rdy_run`,
`picker_ready_list`); a state report for a pool connection that changes its READY-ness, or that moves the aggregate
to or from TRANSIENT_FAILURE, publishes a new state/picker pair, and no other report publishes anything, once
anything has been published (`publish_on_change`).
-/
import GcpVerif.Proofs.PoolSlots
import GcpVerif.Proofs.PoolPublish
namespace GcpVerif.Pool

/-- the ready list of the current picker is a permutation of the READY pool slots -/
def Rdy (s : St) : Prop := ∀ l, s.picker = .gcp l → l.Perm (readySlots s)

/-- slot `j` belongs to a pool connection recorded READY -/
def ReadyAt (s : St) (j : Slot) : Prop :=
  ∃ sc, lookup s.scStates sc = some .ready ∧ lookup s.scRefs sc = some j

theorem mem_readySlots {s : St} (t : Tables s) {j : Slot} : j ∈ readySlots s ↔ ReadyAt s j := by
  unfold readySlots ReadyAt
  rw [List.mem_filterMap]
  constructor
  · rintro ⟨p, hp, hj⟩
    obtain ⟨hp, hr⟩ := List.mem_filter.mp hp
    exact ⟨p.1, (lookup_of_mem t.ndS hp).trans (congrArg some (beq_iff_eq.mp hr)), hj⟩
  · rintro ⟨sc, hs, hj⟩
    exact ⟨(sc, .ready), List.mem_filter.mpr ⟨lookup_some_mem hs, rfl⟩, hj⟩

theorem nodup_readySlots {s : St} (t : Tables s) (hh : Half s) : (readySlots s).Nodup := by
  have hnd : s.scStates.Pairwise fun p q => p.1 ≠ q.1 := List.pairwise_map.mp t.ndS
  refine List.Pairwise.filterMap _ (fun p q hpq j hj k hk e => hpq ?_) (hnd.filter _)
  -- one slot holds one connection
  exact Option.some.inj ((hh.refOf p.1 j hj).symm.trans (e ▸ hh.refOf q.1 k hk))

/-- the ready list is fixed, up to order, by which slots hold a READY connection (`mem_readySlots`, `nodup_readySlots`) -/
theorem rdy_of_iff {s s' : St} (h : Rdy s) (t : Tables s) (hh : Half s) (t' : Tables s') (hh' : Half s')
    (e : s'.picker = s.picker) (hi : ∀ j, ReadyAt s' j ↔ ReadyAt s j) : Rdy s' := by
  intro l hl
  refine (h l (e ▸ hl)).trans
    ((List.perm_ext_iff_of_nodup (nodup_readySlots t hh) (nodup_readySlots t' hh')).mpr fun j => ?_)
  rw [mem_readySlots t, mem_readySlots t', hi]

theorem rdy_frame {s : St} (h : Rdy s) {cfgIn cfg addrs nReady nConn nTF aggr affinity fallback refs rr refreshingMap nextSc failN
    scAddrs removed published now calls waiters held} :
    Rdy { s with cfgIn, cfg, addrs, nReady, nConn, nTF, aggr, affinity, fallback, refs, rr, refreshingMap, nextSc, failN,
                 scAddrs, removed, published, now, calls, waiters, held } :=
  h

theorem readyAt_addConn {s : St} (t : Tables s) (j : Slot) : ReadyAt s.addConn j ↔ ReadyAt s j := by
  refine exists_congr fun x => ?_
  rw [lookup_addConn_scStates, lookup_addConn_scRefs]
  by_cases hx : s.nextSc = x
  · -- the new connection is IDLE, and was in neither table
    rw [if_pos hx, if_pos hx, lookup_eq_none.mpr (hx ▸ t.fresh)]
    exact ⟨fun h => (nomatch h.1), fun h => (nomatch h.1)⟩
  · rw [if_neg hx, if_neg hx]

/-- the swap: the replacement takes the place of the old connection in both tables, with its state and its
    slot; or — the old connection having left the pool by a Shutdown report — it enters as IDLE -/
theorem readyAt_swapped {s : St} (t : Tables s) (hh : Half s) {sc : Sc} {slot : Slot} {r : RefSt}
    (hl : lookup s.refreshingMap sc = some slot) (hg : getRef s slot = some r) (j : Slot) :
    ReadyAt (s.swapped sc slot r.subConn) j ↔ ReadyAt s j := by
  have hsc : sc ∉ keys s.scStates := (t.freshF sc (mem_keys_of_lookup hl)).2
  -- while the old connection is in the pool, the slot table gives the swapped slot for it
  have hR : ∀ {v}, lookup s.scStates r.subConn = some v → lookup s.scRefs r.subConn = some slot :=
    fun hv => hh.slotOf (getRef_subAt hg) ((t.keysEq _).mp (mem_keys_of_lookup hv))
  constructor
  · rintro ⟨x, hs, hj⟩
    rw [lookup_swapped_scStates] at hs
    rw [lookup_swapped_scRefs] at hj
    by_cases hx : sc = x
    · rw [if_pos hx] at hs hj
      have hs : (lookup s.scStates r.subConn).getD .idle = .ready := Option.some.inj hs
      cases hv : lookup s.scStates r.subConn with
      | none => rw [hv] at hs; cases hs
      | some v => rw [hv] at hs; exact ⟨r.subConn, hv.trans (congrArg some hs), (hR hv).trans hj⟩
    · by_cases hx2 : r.subConn = x
      · rw [if_neg hx, if_pos hx2] at hs; cases hs
      · rw [if_neg hx, if_neg hx2] at hs hj; exact ⟨x, hs, hj⟩
  · rintro ⟨x, hs, hj⟩
    by_cases hx : r.subConn = x
    · subst hx
      refine ⟨sc, ?_, ?_⟩
      · rw [lookup_swapped_scStates, if_pos rfl, stateOf, hs]; rfl
      · rw [lookup_swapped_scRefs, if_pos rfl]; exact (hR hs).symm.trans hj
    · have hx1 : sc ≠ x := fun e => hsc (e ▸ mem_keys_of_lookup hs)
      refine ⟨x, ?_, ?_⟩
      · rw [lookup_swapped_scStates, if_neg hx1, if_neg hx]; exact hs
      · rw [lookup_swapped_scRefs, if_neg hx1, if_neg hx]; exact hj

theorem readyAt_recorded {s : St} {sc : Sc} {oldS : CState} (hold : stateOf s sc = some oldS)
    (st : CState) (hc : (st == CState.ready) = (oldS == CState.ready)) (j : Slot) :
    ReadyAt (s.recorded sc oldS st) j ↔ ReadyAt s j := by
  have hl : lookup s.scStates sc = some oldS := hold
  refine exists_congr fun x => ?_
  by_cases hsd : st = .shutdown
  · -- Shutdown: the connection, which was not READY, leaves both tables
    subst hsd
    have ho : oldS ≠ .ready := ne_of_beq_false hc.symm
    rw [(recorded_shutdown s sc oldS).1, (recorded_shutdown s sc oldS).2, lookup_erase, lookup_erase]
    by_cases hx : sc = x
    · rw [if_pos hx, ← hx, hl]
      exact ⟨fun h => (nomatch h.1), fun h => absurd (Option.some.inj h.1) ho⟩
    · rw [if_neg hx, if_neg hx]
  · obtain ⟨eS, eR⟩ := recorded_live s sc oldS hsd
    rw [eS, eR, lookup_insert]
    by_cases hx : sc = x
    · rw [if_pos hx, ← hx, hl, Option.some_inj, Option.some_inj, ← beq_iff_eq, ← beq_iff_eq (a := oldS), hc]
    · rw [if_neg hx]

theorem rdy_republished (s : St) (order : List Slot) : Rdy (s.republished order) := by
  intro l hl
  show l.Perm (readySlots s)
  rcases regeneratePicker_picker s order with ⟨_, e⟩ | ⟨_, l', e, hp⟩ <;> rw [show (s.republished order).picker = _ from e] at hl <;>
    cases hl
  exact hp

theorem rdy_stage {s0 s s' : St} {op : Op} (st : Stage s0 op s s') (t : Tables s) (hh : Half s) (h : Rdy s) : Rdy s' := by
  have t' := tables_stage st t
  have hh' := half_stage st t hh
  cases st with
  | addConn => exact rdy_of_iff h t hh t' hh' rfl (readyAt_addConn t)
  | swap sc _ slot r hl hg => exact rdy_of_iff h t hh t' hh' rfl (readyAt_swapped t hh hl hg)
  | record sc st _ oldS hst _ hp =>
    exact rdy_of_iff h t hh t' hh' rfl (readyAt_recorded hst st (publishes_false.mp hp).1)
  | publish sc st order oldS => exact rdy_republished _ order
  | _ => exact rdy_frame h

theorem rdy_init (ci : CfgInput) : Rdy (init ci) :=
  fun _ hl => nomatch hl

theorem thr_stage {s0 s s' : St} {op : Op} (st : Stage s0 op s s') (h : (Tables s ∧ Half s) ∧ Rdy s) :
    (Tables s' ∧ Half s') ∧ Rdy s' :=
  ⟨⟨tables_stage st h.1.1, half_stage st h.1.1 h.1.2⟩, rdy_stage st h.1.1 h.1.2 h.2⟩

/-- in every reachable state (no assumption on gRPC's reports) -/
theorem rdy_run (ci : CfgInput) (ops : List Op) : Rdy (run (init ci) ops) :=
  (run_stages (P := fun s => (Tables s ∧ Half s) ∧ Rdy s) ci ⟨⟨tables_init ci, half_init ci⟩, rdy_init ci⟩
    thr_stage ops).2

theorem sort_eq_of_perm {a b : List Slot} (h : a.Perm b) : a.mergeSort (· ≤ ·) = b.mergeSort (· ≤ ·) := by
  have tr : ∀ x y z : Nat, decide (x ≤ y) = true → decide (y ≤ z) = true → decide (x ≤ z) = true :=
    fun _ _ _ h1 h2 => decide_eq_true (Nat.le_trans (of_decide_eq_true h1) (of_decide_eq_true h2))
  have tot : ∀ x y : Nat, (decide (x ≤ y) || decide (y ≤ x)) = true := fun x y => by
    rw [Bool.or_eq_true, decide_eq_true_eq, decide_eq_true_eq]; exact Nat.le_total x y
  exact List.Perm.eq_of_pairwise (le := fun x y => decide (x ≤ y) = true)
    (fun _ _ _ _ h1 h2 => Nat.le_antisymm (of_decide_eq_true h1) (of_decide_eq_true h2))
    (List.pairwise_mergeSort tr tot a) (List.pairwise_mergeSort tr tot b)
    ((List.mergeSort_perm a _).trans (h.trans (List.mergeSort_perm b _).symm))

/-- **C04** after every history the current picker — which is the last one published — lists exactly
    the pool slots whose connection is recorded READY (the monitor clause `picker_ready_list`) -/
theorem picker_ready_list (ci : CfgInput) (ops : List Op) :
    pickerListOk (run (init ci) ops).scStates (run (init ci) ops).scRefs (run (init ci) ops).picker = true := by
  have h := rdy_run ci ops
  generalize run (init ci) ops = s at h
  unfold pickerListOk
  cases hp : s.picker with
  | gcp l => exact beq_iff_eq.mpr (sort_eq_of_perm (h l hp))
  | errTF => rfl
  | errNoSc => rfl

/-- **C04** a state report for a pool connection publishes a new state/picker pair exactly when it
    changes that connection's READY-ness or moves the pool's aggregate to or from TRANSIENT_FAILURE
    (once anything has been published) — in every reachable state -/
theorem publish_on_change (ci : CfgInput) (ops : List Op) (sc : Sc) (st oldS : CState) (order : List Slot)
    (hl : lookup (run (init ci) ops).refreshingMap sc = none)
    (hold : stateOf (run (init ci) ops) sc = some oldS)
    (hpub : (run (init ci) ops).published ≠ []) :
    (step (run (init ci) ops) (.scs sc st order)).1.published.length = (run (init ci) ops).published.length +
      (if ((st == CState.ready) != (oldS == CState.ready)) ||
          ((aggregate (step (run (init ci) ops) (.scs sc st order)).1.scStates == CState.tf) !=
           (aggregate (run (init ci) ops).scStates == CState.tf)) then 1 else 0) := by
  have t := tables_run ci ops
  have hp := pub_run ci ops
  generalize run (init ci) ops = s at t hp hl hold hpub
  have hagg : s.aggr = aggregate s.scStates := by
    cases hq : s.published.getLast? with
    | none => exact absurd (List.getLast?_eq_none_iff.mp hq) hpub
    | some q => exact hp.aggrOk.resolve_left (hp.last q hq).2.2
  -- the report is `maybePublish` of the recorded state; the wake-up pass touches neither table nor log
  have hcore : (stepCore s (.scs sc st order)).1 =
      if publishes oldS st s.aggr (s.recorded sc oldS st).aggr then (s.recorded sc oldS st).republished order
      else s.recorded sc oldS st := by
    show (opScs s sc st order).1 = _
    unfold opScs scsPrologue
    simp only [hl, hold]
    exact (congrArg Prod.fst (report_eq s sc oldS st order)).trans (maybePublish_fst _ oldS st s.aggr order)
  have hstep : (step s (.scs sc st order)).1.published = (stepCore s (.scs sc st order)).1.published ∧
      (step s (.scs sc st order)).1.scStates = (stepCore s (.scs sc st order)).1.scStates :=
    step_of_core (P := fun a => a.published = _ ∧ a.scStates = _) _ (fun _ _ _ h => h) ⟨rfl, rfl⟩
  rw [hstep.1, hstep.2, hcore]
  have hsc : ∀ b : Bool, aggregate (if b then (s.recorded sc oldS st).republished order else s.recorded sc oldS st).scStates =
      (s.recorded sc oldS st).aggr := fun b => by cases b <;> exact (recorded_aggr t hold st).symm
  rw [hsc, ← hagg]
  unfold publishes
  split
  · exact List.length_append
  · rfl

/-- a report for a connection the balancer does not know publishes nothing and changes nothing -/
theorem unknown_connection_ignored (s : St) (sc : Sc) (st : CState) (order : List Slot)
    (hl : lookup s.refreshingMap sc = none) (hold : stateOf s sc = none) :
    (stepCore s (.scs sc st order)).1 = s := by
  show (opScs s sc st order).1 = s
  unfold opScs scsPrologue
  simp only [hl, hold]

/-- the premises of `publish_on_change` are met by real histories: the only connection leaving READY
    publishes (READY-ness changed), a repeated READY report does not -/
example :
    lookup (run (init .absent) [.ccs 1, .scs 0 .connecting [], .scs 0 .ready [0]]).refreshingMap 0 = none ∧
    stateOf (run (init .absent) [.ccs 1, .scs 0 .connecting [], .scs 0 .ready [0]]) 0 = some .ready ∧
    (run (init .absent) [.ccs 1, .scs 0 .connecting [], .scs 0 .ready [0]]).published.length = 1 ∧
    (step (run (init .absent) [.ccs 1, .scs 0 .connecting [], .scs 0 .ready [0]]) (.scs 0 .tf [])).1.published.length = 2 ∧
    (step (run (init .absent) [.ccs 1, .scs 0 .connecting [], .scs 0 .ready [0]]) (.scs 0 .ready [0])).1.published.length = 1 := by
  decide +kernel

end GcpVerif.Pool
