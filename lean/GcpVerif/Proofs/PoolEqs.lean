/-
What the pool model's functions do, case by case.

The state updates of the model as explicit records (`St.addConn`, `St.startRefresh`, `St.placed`,
`St.woken`, `St.swapped`, `St.recorded`, `St.republished`, `St.rebound`), and for every function of
the model that writes the state the equations that say which of them it performs under which
condition.  `PoolStages` builds the walk through the operations on these; the invariant files use
them wherever a single function of the model is at hand.
-/
import GcpVerif.Proofs.PoolLocal
namespace GcpVerif.Pool

/-! ### the explicit updates -/

/-- `cc.NewSubConn` succeeded and `addSubConn` appended the slot of the new connection -/
def St.addConn (s : St) : St :=
  { s with nextSc := s.nextSc + 1, scAddrs := insert s.scAddrs s.nextSc s.addrs,
           scRefs := insert s.scRefs s.nextSc s.refs.length, scStates := insert s.scStates s.nextSc .idle,
           refs := s.refs ++ [{ subConn := s.nextSc, affinityCnt := 0, streamsCnt := 0, lastResp := s.now,
                                deCalls := 0, refreshing := false, refreshCnt := 0 }] }

/-- `refresh` created the replacement connection for `slot` -/
def St.startRefresh (s : St) (slot : Slot) : St :=
  { s with refs := s.refs.modify slot fun r => { r with refreshing := true }, nextSc := s.nextSc + 1,
           scAddrs := insert s.scAddrs s.nextSc s.addrs, refreshingMap := insert s.refreshingMap s.nextSc slot }

/-- the call `c` was placed on its slot -/
def St.placed (s : St) (c : Call) : St :=
  { s with refs := s.refs.modify c.slot fun r => { r with streamsCnt := r.streamsCnt + 1 }, calls := s.calls ++ [c] }

/-- the replacement `sc` took over `slot` from the connection `old` -/
def St.swapped (s : St) (sc : Sc) (slot : Slot) (old : Sc) : St :=
  { s with scStates := insert (erase s.scStates old) sc ((stateOf s old).getD .idle),
           refreshingMap := erase s.refreshingMap sc,
           scRefs := insert (erase s.scRefs old) sc slot,
           refs := s.refs.modify slot fun r =>
             { r with subConn := sc, deCalls := 0, lastResp := s.now, refreshing := false, refreshCnt := r.refreshCnt + 1 },
           affinity := repoint s.affinity old sc, fallback := repoint s.fallback old sc,
           removed := s.removed ++ [old] }

/-- the composite that follows the prologue of UpdateSubConnState for a known connection -/
def report (s : St) (sc : Sc) (oldS st : CState) (order : List Slot) : St × List Event :=
  let r1 := recordState s sc st
  let s2 := cleanFallback r1.1 sc oldS st
  let s3 := recordTransition s2 oldS st
  maybePublish s3 oldS st s2.aggr order

/-- one evaluator counter across a transition -/
def trans64 (a b x : CState) (n : Nat) : Nat := (if b == x then inc64 else id) ((if a == x then dec64 else id) n)

/-- a state report for the pool connection `sc`, up to the decision to publish -/
def St.recorded (s : St) (sc : Sc) (oldS st : CState) : St :=
  { s with scStates := if st = .shutdown then erase s.scStates sc else insert s.scStates sc st,
           scRefs := if st = .shutdown then erase s.scRefs sc else s.scRefs,
           fallback := (cleanFallback s sc oldS st).fallback,
           nReady := trans64 oldS st .ready s.nReady, nConn := trans64 oldS st .connecting s.nConn,
           nTF := trans64 oldS st .tf s.nTF,
           aggr := if trans64 oldS st .ready s.nReady > 0 then .ready
                   else if trans64 oldS st .connecting s.nConn > 0 then .connecting else .tf }

/-- a new picker was built and published with the aggregate state.  (Proofs about a field other than `picker` /
    `published` `unfold St.republished` first: `rfl` or `exact` across the folded update compares the states field by
    field and runs into `regeneratePicker` and its sort before it reaches the field in question.) -/
def St.republished (s : St) (order : List Slot) : St :=
  { s with picker := (regeneratePicker s order).picker,
           published := s.published ++ [(s.aggr, (regeneratePicker s order).picker)] }

/-- `maybePublish` publishes: the READY-ness of the connection or the TF-ness of the aggregate changed -/
def publishes (oldS st oldAggr newAggr : CState) : Bool :=
  ((st == .ready) != (oldS == .ready)) || ((newAggr == .tf) != (oldAggr == .tf))

/-- `s` with the key table and the slots (their key counts) taken from `t` -/
def St.rebound (s t : St) : St := { s with affinity := t.affinity, refs := t.refs }

/-- the waiting pick `w` stopped waiting and was placed on its slot -/
def St.woken (s : St) (w : Waiter) : St :=
  St.placed { s with waiters := s.waiters.filter fun x => x.id != w.id }
    { id := w.id, slot := w.slot, cmd := .bind, loc := w.loc, boundKey := "", ctx := w.ctx, dl := w.dl, started := s.now }

/-! ### creating a connection, placing a call, refresh and swap -/

theorem ccNewSubConn_noaddrs {s : St} (ha : s.addrs = 0) : ccNewSubConn s = (s, none, [.newFail]) := by
  simp [ccNewSubConn, ha]

theorem ccNewSubConn_fail {s : St} (ha : s.addrs ≠ 0) (hf : 0 < s.failN) :
    ccNewSubConn s = ({ s with failN := s.failN - 1 }, none, [.newFail]) := by
  simp [ccNewSubConn, ha, hf]

theorem ccNewSubConn_ok {s : St} (ha : s.addrs ≠ 0) (hf : s.failN = 0) :
    ccNewSubConn s = ({ s with nextSc := s.nextSc + 1, scAddrs := insert s.scAddrs s.nextSc s.addrs },
      some s.nextSc, [.newSc s.nextSc s.addrs]) := by
  simp [ccNewSubConn, ha, hf]

theorem addSubConn_noaddrs {s : St} (ha : s.addrs = 0) : addSubConn s = (s, false, [.newFail]) := by
  rw [addSubConn, ccNewSubConn_noaddrs ha]

theorem addSubConn_fail {s : St} (ha : s.addrs ≠ 0) (hf : 0 < s.failN) :
    addSubConn s = ({ s with failN := s.failN - 1 }, false, [.newFail]) := by
  rw [addSubConn, ccNewSubConn_fail ha hf]

theorem addSubConn_ok {s : St} (ha : s.addrs ≠ 0) (hf : s.failN = 0) :
    addSubConn s = (s.addConn, true, [.newSc s.nextSc s.addrs, .connect s.nextSc]) := by
  rw [addSubConn, ccNewSubConn_ok ha hf]; rfl

theorem addSubConn_cases (s : St) :
    addSubConn s = (s, false, [.newFail]) ∨
    (0 < s.failN ∧ addSubConn s = ({ s with failN := s.failN - 1 }, false, [.newFail])) ∨
    (s.addrs ≠ 0 ∧ s.failN = 0 ∧ addSubConn s = (s.addConn, true, [.newSc s.nextSc s.addrs, .connect s.nextSc])) := by
  by_cases ha : s.addrs = 0
  · exact .inl (addSubConn_noaddrs ha)
  · by_cases hf : 0 < s.failN
    · exact .inr (.inl ⟨hf, addSubConn_fail ha hf⟩)
    · exact .inr (.inr ⟨ha, by omega, addSubConn_ok ha (by omega)⟩)

theorem enforce_induct {min : Nat} {R : St → St × List Event → Prop} (stop : ∀ s, R s (s, []))
    (fail : ∀ s s1 ev, s.scRefs.length < min → addSubConn s = (s1, false, ev) → R s (s1, ev))
    (more : ∀ s s1 ev r, s.scRefs.length < min → addSubConn s = (s1, true, ev) → R s1 r → R s (r.1, ev ++ r.2)) :
    ∀ (fuel : Nat) (s : St), R s (enforceMinSize s min fuel)
  | 0, s => stop s
  | fuel + 1, s => by
    unfold enforceMinSize
    by_cases hlt : s.scRefs.length < min
    · rw [if_pos hlt]
      rcases ha : addSubConn s with ⟨s1, _ | _, ev⟩
      · exact fail s s1 ev hlt ha
      · exact more s s1 ev _ hlt ha (enforce_induct stop fail more fuel s1)
    · rw [if_neg hlt]; exact stop s

/-- (where the call is placed in `{ s with waiters := … }` and `hg` speaks of `s`, callers write
    `place_some (by exact hg)`: the state is then read off the goal, and `hg` is accepted up to definitional
    equality, `getRef` reading `refs` only) -/
theorem place_some {s : St} {slot : Slot} {r : RefSt} (hg : getRef s slot = some r) (call : Nat) (cmd : Cmd) (loc : Loc)
    (key : String) (ctx : CtxKind) (dl : Option Int) :
    place s call slot cmd loc key ctx dl =
      (s.placed { id := call, slot := slot, cmd := cmd, loc := loc, boundKey := key, ctx := ctx, dl := dl, started := s.now },
       some r.subConn) := by
  simp only [place, hg]; rfl

theorem place_none {s : St} {slot : Slot} (hg : getRef s slot = none) (call : Nat) (cmd : Cmd) (loc : Loc)
    (key : String) (ctx : CtxKind) (dl : Option Int) : place s call slot cmd loc key ctx dl = (s, none) := by
  simp only [place, hg]

theorem updateAll_eq (s : St) (scs : List Sc) :
    updateAll s scs = ({ s with scAddrs := scs.foldl (fun m sc => insert m sc s.addrs) s.scAddrs },
      scs.flatMap fun sc => [.upd sc s.addrs, .connect sc]) := by
  unfold updateAll
  suffices h : ∀ (m : List (Sc × Nat)) (ev : List Event),
      scs.foldl (fun (acc : St × List Event) sc =>
        ({ acc.1 with scAddrs := insert acc.1.scAddrs sc acc.1.addrs }, acc.2 ++ [.upd sc acc.1.addrs, .connect sc]))
        ({ s with scAddrs := m }, ev) = ({ s with scAddrs := scs.foldl (fun m sc => insert m sc s.addrs) m },
          ev ++ scs.flatMap fun sc => [.upd sc s.addrs, .connect sc]) from
    (h s.scAddrs []).trans (by rw [List.nil_append])
  induction scs with
  | nil => intro m ev; simp
  | cons x xs ih => intro m ev; exact (ih _ _).trans (by simp)

theorem updateAll_fst (s : St) (scs : List Sc) :
    (updateAll s scs).1 = { s with scAddrs := scs.foldl (fun m sc => insert m sc s.addrs) s.scAddrs } :=
  congrArg Prod.fst (updateAll_eq s scs)

theorem updateAll_snd (s : St) (scs : List Sc) :
    (updateAll s scs).2 = scs.flatMap fun sc => [.upd sc s.addrs, .connect sc] :=
  congrArg Prod.snd (updateAll_eq s scs)

theorem map_modify_of {β : Type} (g : RefSt → β) {f : RefSt → RefSt} (hf : ∀ r, g (f r) = g r) (l : List RefSt)
    (i : Slot) : (l.modify i f).map g = l.map g := by
  apply List.ext_getElem?
  intro j
  simp only [List.getElem?_map, List.getElem?_modify]
  cases l[j]? with
  | none => rfl
  | some a => by_cases h : i = j <;> simp [h, hf]

theorem length_of_map {α β : Type} {l l' : List α} {g : α → β} (h : l'.map g = l.map g) : l'.length = l.length := by
  simpa using congrArg List.length h

theorem modRef_id {s : St} {slot : Slot} {f : RefSt → RefSt} (h : ∀ r, getRef s slot = some r → f r = r) :
    modRef s slot f = s := by
  have : s.refs.modify slot f = s.refs := by
    apply List.ext_getElem?
    intro i
    rw [List.getElem?_modify]
    by_cases hi : slot = i
    · subst hi
      cases hr : s.refs[slot]? with
      | none => rfl
      | some r => simp [h r hr]
    · simp [hi]
  unfold modRef; rw [this]

theorem refresh_ok {s : St} {slot : Slot} {r : RefSt} (hg : getRef s slot = some r) (hr : r.refreshing = false)
    (ha : s.addrs ≠ 0) (hf : s.failN = 0) :
    refresh s slot = (s.startRefresh slot, [.newSc s.nextSc s.addrs, .connect s.nextSc]) := by
  simp only [refresh, hg, hr, Bool.false_eq_true, ↓reduceIte]
  rw [ccNewSubConn_ok (by exact ha) (by exact hf)]; rfl

/-- the flag set for an attempt that fails is cleared again -/
theorem refresh_back {s : St} {slot : Slot} {r : RefSt} (hg : getRef s slot = some r) (hr : r.refreshing = false) (n : Nat) :
    modRef { modRef s slot (fun r => { r with refreshing := true }) with failN := n } slot
      (fun r => { r with refreshing := false }) = { s with failN := n } := by
  have : (s.refs.modify slot fun r => { r with refreshing := true }).modify slot
      (fun r => { r with refreshing := false }) = s.refs := by
    rw [List.modify_modify_eq]
    refine congrArg St.refs (modRef_id (s := s) (slot := slot) fun r' h' => ?_)
    obtain rfl : r = r' := Option.some.inj (hg.symm.trans h')
    cases r; cases hr; rfl
  unfold modRef
  simp only [this]

theorem refresh_fst (s : St) (slot : Slot) :
    (refresh s slot).1 = s ∨ (0 < s.failN ∧ (refresh s slot).1 = { s with failN := s.failN - 1 }) ∨
    ∃ r, getRef s slot = some r ∧ r.refreshing = false ∧ s.addrs ≠ 0 ∧ s.failN = 0 := by
  cases hg : getRef s slot with
  | none => left; simp only [refresh, hg]
  | some r =>
    cases hr : r.refreshing with
    | true => left; rw [refresh_once hg hr]
    | false =>
      simp only [refresh, hg, hr, Bool.false_eq_true, ↓reduceIte]
      by_cases ha : s.addrs = 0
      · rw [ccNewSubConn_noaddrs (by exact ha)]
        exact .inl (refresh_back hg hr s.failN)
      · by_cases hf : 0 < s.failN
        · rw [ccNewSubConn_fail (by exact ha) (by exact hf)]
          exact .inr (.inl ⟨hf, refresh_back hg hr _⟩)
        · exact .inr (.inr ⟨r, rfl, hr, ha, Nat.eq_zero_of_not_pos hf⟩)

theorem swap_some {s : St} {slot : Slot} {r : RefSt} (hg : getRef s slot = some r) (sc : Sc) :
    swap s sc slot = (s.swapped sc slot r.subConn, [.remove r.subConn]) := by
  simp only [swap, hg]; rfl

theorem swap_none {s : St} {slot : Slot} (hg : getRef s slot = none) (sc : Sc) : swap s sc slot = (s, []) := by
  simp only [swap, hg]

/-! ### the state report -/

theorem updCounter_eq (s : St) (st : CState) (f : Nat → Nat) :
    updCounter s st f = { s with nReady := (if st == .ready then f else id) s.nReady,
                                 nConn := (if st == .connecting then f else id) s.nConn,
                                 nTF := (if st == .tf then f else id) s.nTF } := by
  cases st <;> rfl

theorem report_eq (s : St) (sc : Sc) (oldS st : CState) (order : List Slot) :
    report s sc oldS st order = maybePublish (s.recorded sc oldS st) oldS st s.aggr order := by
  have h1 : (recordState s sc st).1 =
      { s with scStates := if st = .shutdown then erase s.scStates sc else insert s.scStates sc st,
               scRefs := if st = .shutdown then erase s.scRefs sc else s.scRefs } := by
    unfold recordState
    cases st
    case shutdown => simp only [↓reduceIte, erase_insert_self]
    all_goals rfl
  have h2 : ∀ (S : List (Sc × CState)) (R : List (Sc × Slot)),
      cleanFallback { s with scStates := S, scRefs := R } sc oldS st =
        { s with scStates := S, scRefs := R, fallback := (cleanFallback s sc oldS st).fallback } := by
    intro S R; unfold cleanFallback
    cases (oldS == .ready && st != .ready) <;> cases (oldS != .ready && st == .ready) <;> rfl
  unfold report
  simp only
  rw [h1, h2]
  unfold recordTransition
  rw [updCounter_eq, updCounter_eq]
  rfl

theorem publishes_false {oldS st oldAggr newAggr : CState} : publishes oldS st oldAggr newAggr = false ↔
    (st == .ready) = (oldS == .ready) ∧ (newAggr == .tf) = (oldAggr == .tf) := by
  simp only [publishes, Bool.or_eq_false_iff, bne_eq_false_iff_eq]

theorem mem_cleanFallback {s : St} {sc : Sc} {a b : CState} {p : String × Sc}
    (h : p ∈ (cleanFallback s sc a b).fallback) : p ∈ s.fallback ∧ (a = .ready → b ≠ .ready → p.2 ≠ sc) := by
  unfold cleanFallback at h
  by_cases h1 : (a == .ready && b != .ready) = true <;> by_cases h2 : (a != .ready && b == .ready) = true <;>
    simp only [h1, h2, ↓reduceIte, Bool.false_eq_true, List.mem_filter] at h
  · exact ⟨h.1.1, fun _ _ => by simpa using h.1.2⟩
  · exact ⟨h.1, fun _ _ => by simpa using h.2⟩
  · exact ⟨h.1, fun ha hb => absurd (by simp [ha, hb]) h1⟩
  · exact ⟨h, fun ha hb => absurd (by simp [ha, hb]) h1⟩

/-- the picker `regeneratePicker` builds: the error picker under TRANSIENT_FAILURE, otherwise a list of the
    READY slots; a permutation of `readySlots`, because the order is Go's map iteration order, an input of the
    step (`order`, taken when it lists exactly them) -/
theorem regeneratePicker_picker (s : St) (order : List Slot) :
    (s.aggr = .tf ∧ (regeneratePicker s order).picker = .errTF) ∨
    (s.aggr ≠ .tf ∧ ∃ l, (regeneratePicker s order).picker = .gcp l ∧ l.Perm (readySlots s)) := by
  unfold regeneratePicker
  by_cases h : (s.aggr == .tf) = true
  · rw [if_pos h]; exact .inl ⟨beq_iff_eq.mp h, rfl⟩
  · rw [if_neg h]
    refine .inr ⟨fun e => h (beq_iff_eq.mpr e), _, rfl, ?_⟩
    by_cases ho : (order.mergeSort (· ≤ ·) == (readySlots s).mergeSort (· ≤ ·)) = true
    · rw [if_pos ho]
      exact (List.mergeSort_perm order _).symm.trans (beq_iff_eq.mp ho ▸ List.mergeSort_perm (readySlots s) _)
    · rw [if_neg ho]; exact List.mergeSort_perm _ _

theorem maybePublish_fst (s : St) (oldS st oldAggr : CState) (order : List Slot) :
    (maybePublish s oldS st oldAggr order).1 = if publishes oldS st oldAggr s.aggr then s.republished order else s := by
  unfold maybePublish
  show Prod.fst (if publishes oldS st oldAggr s.aggr = true then _ else _) = _
  by_cases h : publishes oldS st oldAggr s.aggr = true
  · rw [if_pos h, if_pos h]
    -- `regeneratePicker` writes the picker only, in either branch
    unfold St.republished regeneratePicker
    by_cases ht : (s.aggr == .tf) = true
    · rw [if_pos ht]
    · rw [if_neg ht]
  · rw [if_neg h, if_neg h]

/-! ### the two tables, entry by entry, across the updates -/

theorem lookup_addConn_scStates (s : St) (x : Sc) :
    lookup s.addConn.scStates x = if s.nextSc = x then some .idle else lookup s.scStates x :=
  lookup_insert ..

theorem lookup_addConn_scRefs (s : St) (x : Sc) :
    lookup s.addConn.scRefs x = if s.nextSc = x then some s.refs.length else lookup s.scRefs x :=
  lookup_insert ..

theorem lookup_swapped_scStates (s : St) (sc : Sc) (slot : Slot) (old x : Sc) :
    lookup (s.swapped sc slot old).scStates x =
      if sc = x then some ((stateOf s old).getD .idle) else if old = x then none else lookup s.scStates x := by
  show lookup (insert (erase s.scStates old) sc _) x = _
  rw [lookup_insert, lookup_erase]

theorem lookup_swapped_scRefs (s : St) (sc : Sc) (slot : Slot) (old x : Sc) :
    lookup (s.swapped sc slot old).scRefs x = if sc = x then some slot else if old = x then none else lookup s.scRefs x := by
  show lookup (insert (erase s.scRefs old) sc slot) x = _
  rw [lookup_insert, lookup_erase]

theorem lookup_repoint (l : List (String × Sc)) (old new : Sc) (key : String) :
    lookup (repoint l old new) key = (lookup l key).map (fun x => if x == old then new else x) := by
  induction l with
  | nil => rfl
  | cons p l ih =>
    have e : repoint (p :: l) old new = (p.1, if p.2 == old then new else p.2) :: repoint l old new := by
      show (if p.2 == old then (p.1, new) else p) :: _ = _
      cases p.2 == old <;> rfl
    rw [e, lookup_cons, lookup_cons, ih]
    cases p.1 == key <;> rfl

theorem recorded_live (s : St) (sc : Sc) (oldS : CState) {st : CState} (h : st ≠ .shutdown) :
    (s.recorded sc oldS st).scStates = insert s.scStates sc st ∧ (s.recorded sc oldS st).scRefs = s.scRefs :=
  ⟨if_neg h, if_neg h⟩

theorem recorded_shutdown (s : St) (sc : Sc) (oldS : CState) :
    (s.recorded sc oldS .shutdown).scStates = erase s.scStates sc ∧ (s.recorded sc oldS .shutdown).scRefs = erase s.scRefs sc :=
  ⟨rfl, rfl⟩

theorem lookup_recorded_scRefs {s : St} {sc : Sc} {oldS st : CState} {x : Sc} {j : Slot}
    (hx : lookup (s.recorded sc oldS st).scRefs x = some j) : lookup s.scRefs x = some j := by
  by_cases hsd : st = .shutdown
  · subst hsd
    rw [(recorded_shutdown s sc oldS).2] at hx
    exact (lookup_erase_eq_some.mp hx).2
  · rwa [(recorded_live s sc oldS hsd).2] at hx

theorem mem_keys_recorded (s : St) (sc : Sc) (oldS st : CState) {x : Sc} (h : x ∈ keys (s.recorded sc oldS st).scRefs) :
    x ∈ keys s.scRefs := by
  obtain ⟨j, hj⟩ := exists_lookup_of_mem_keys h
  exact mem_keys_of_lookup (lookup_recorded_scRefs hj)

/-! ### the wake-up pass -/

theorem step_fst (s : St) (op : Op) : (step s op).1 = (wakeWaiters (stepCore s op).1).1 := rfl

/-- one round of the wake-up pass -/
def wakeOne (acc : St × List Event) (w : Waiter) : St × List Event :=
  if slotReady acc.1 w.slot then
    match placeWaiter { acc.1 with waiters := acc.1.waiters.filter fun x => x.id != w.id } w with
    | (s, some sc) => (s, acc.2 ++ [.woke w.id sc])
    | (_, none) => acc
  else acc

theorem wakeWaiters_eq (s : St) : wakeWaiters s = s.waiters.foldl wakeOne (s, []) := rfl

theorem wakeOne_fst (acc : St × List Event) (w : Waiter) :
    (slotReady acc.1 w.slot = false ∧ wakeOne acc w = acc) ∨
    ∃ r, getRef acc.1 w.slot = some r ∧ (wakeOne acc w).1 = acc.1.woken w := by
  unfold wakeOne
  cases hr : slotReady acc.1 w.slot with
  | false => exact Or.inl ⟨rfl, rfl⟩
  | true =>
    cases hg : getRef acc.1 w.slot with
    | none => unfold slotReady at hr; rw [hg] at hr; cases hr
    | some r => exact .inr ⟨r, rfl, by unfold placeWaiter; rw [place_some (by exact hg)]; rfl⟩

/-! ### binding and unbinding -/

theorem rebound_trans {s t1 t2 : St} (h1 : t1 = s.rebound t1) (h2 : t2 = t1.rebound t2) : t2 = s.rebound t2 := by
  rw [h2, h1]; rfl

theorem bumpAffinity_rebound (s : St) (sc : Sc) (d : Int) : bumpAffinity s sc d = s.rebound (bumpAffinity s sc d) := by
  unfold bumpAffinity; split <;> rfl

theorem bindSubConn_rebound (s : St) (k : String) (sc : Sc) : bindSubConn s k sc = s.rebound (bindSubConn s k sc) := by
  refine rebound_trans ?_ (bumpAffinity_rebound _ sc 1)
  unfold addBinding; split <;> rfl

theorem bindAll_rebound (sc : Sc) : ∀ (keys : List String) (s : St),
    keys.foldl (fun s k => bindSubConn s k sc) s = s.rebound (keys.foldl (fun s k => bindSubConn s k sc) s)
  | [], _ => rfl
  | k :: ks, s => rebound_trans (bindSubConn_rebound s k sc) (bindAll_rebound sc ks _)

theorem unbindSubConn_rebound (s : St) (key : String) : unbindSubConn s key = s.rebound (unbindSubConn s key) := by
  unfold unbindSubConn
  split
  · rfl
  · exact rebound_trans (bumpAffinity_rebound s _ (-1)) rfl

theorem bindAll_affinity (sc : Sc) : ∀ (ks : List String) (s : St),
    (∀ p ∈ (ks.foldl (fun s k => bindSubConn s k sc) s).affinity, p ∈ s.affinity ∨ p.2 = sc) ∧
    ∀ key v, lookup s.affinity key = some v → lookup (ks.foldl (fun s k => bindSubConn s k sc) s).affinity key = some v
  | [], _ => ⟨fun _ hp => Or.inl hp, fun _ _ h => h⟩
  | k :: ks, s => by
    obtain ⟨ih1, ih2⟩ := bindAll_affinity sc ks (bindSubConn s k sc)
    have e := bindSubConn_affinity s k sc
    refine ⟨fun p hp => ?_, fun key v hv => ih2 key v ?_⟩
    · rcases ih1 p hp with h | h
      · rw [e] at h
        split at h
        · exact (List.mem_append.mp h).imp_right fun h => by rw [List.mem_singleton.mp h]
        · exact Or.inl h
      · exact Or.inr h
    · rw [e]; split
      · rw [lookup_append, hv]; rfl
      · exact hv

theorem bumpAffinity_refs_map {β : Type} (g : RefSt → β) (hg : ∀ r n, g { r with affinityCnt := n } = g r) (s : St)
    (sc : Sc) (d : Int) : (bumpAffinity s sc d).refs.map g = s.refs.map g := by
  unfold bumpAffinity; split
  · exact map_modify_of g (fun r => hg r _) _ _
  · rfl

theorem bindAll_refs_map {β : Type} (g : RefSt → β) (hg : ∀ r n, g { r with affinityCnt := n } = g r) (sc : Sc) :
    ∀ (keys : List String) (s : St), (keys.foldl (fun s k => bindSubConn s k sc) s).refs.map g = s.refs.map g
  | [], _ => rfl
  | k :: ks, s => by
    refine (bindAll_refs_map g hg sc ks _).trans ((bumpAffinity_refs_map g hg _ sc 1).trans ?_)
    unfold addBinding; split <;> rfl

theorem unbind_refs_map {β : Type} (g : RefSt → β) (hg : ∀ r n, g { r with affinityCnt := n } = g r) (s : St)
    (key : String) : (unbindSubConn s key).refs.map g = s.refs.map g := by
  unfold unbindSubConn; split
  · rfl
  · exact bumpAffinity_refs_map g hg s _ (-1)

theorem applyBindings_refs_map {β : Type} (g : RefSt → β) (hg : ∀ r n, g { r with affinityCnt := n } = g r) (s : St)
    (call : Call) (reply : Msg) : (applyBindings s call reply).refs.map g = s.refs.map g := by
  unfold applyBindings
  cases call.cmd with
  | bound => rfl
  | unbind => exact unbind_refs_map g hg s _
  | bind =>
    simp only
    split
    · rfl
    · split
      · rfl
      · split
        · rfl
        · exact bindAll_refs_map g hg _ _ s

end GcpVerif.Pool
