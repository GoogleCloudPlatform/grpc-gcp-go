/-
C09 — "each round-robin BIND call is handed its assigned channel only once that channel is READY,
unless its context ends first": in every reachable state no waiting pick is left whose slot's
connection is READY (`no_ready_waiter`), and the wake-ups never touch the readiness of any slot.
-/
import GcpVerif.Proofs.PoolStages
namespace GcpVerif.Pool

theorem slotReady_woken (s : St) (w : Waiter) (j : Slot) : slotReady (s.woken w) j = slotReady s j := by
  have h : getRef (s.woken w) j =
      (fun r => if w.slot = j then { r with streamsCnt := r.streamsCnt + 1 } else r) <$> getRef s j :=
    List.getElem?_modify ..
  unfold slotReady
  rw [h]
  cases getRef s j with
  | none => rfl
  | some r => show isReadySc s (if w.slot = j then _ else r).subConn = isReadySc s r.subConn; split <;> rfl

/-- readiness stays that of `s` throughout the pass, so a pick of `ws` that is passed over is not READY in `s` -/
theorem wake_fold (s : St) (ws : List Waiter) : ∀ (acc : St × List Event), (∀ j, slotReady acc.1 j = slotReady s j) →
    (∀ j, slotReady (ws.foldl wakeOne acc).1 j = slotReady s j) ∧
    ∀ w ∈ (ws.foldl wakeOne acc).1.waiters, w ∈ acc.1.waiters ∧ (w ∈ ws → slotReady s w.slot = false) := by
  induction ws with
  | nil => exact fun _ hr => ⟨hr, fun _ hw => ⟨hw, fun h => nomatch h⟩⟩
  | cons w0 ws ih =>
    intro acc hr
    rw [List.foldl_cons]
    rcases wakeOne_fst acc w0 with ⟨hn, e⟩ | ⟨_, _, e⟩
    · rw [e]
      refine ⟨(ih acc hr).1, fun w hw => ⟨((ih acc hr).2 w hw).1, fun hm => ?_⟩⟩
      rcases List.mem_cons.mp hm with rfl | hm
      · exact (hr _).symm.trans hn
      · exact ((ih acc hr).2 w hw).2 hm
    · have ih := ih (wakeOne acc w0) (fun j => by rw [e, slotReady_woken]; exact hr j)
      refine ⟨ih.1, fun w hw => ?_⟩
      -- the woken pick and everything with its id has left the queue
      have h1 : w ∈ (acc.1.woken w0).waiters := e ▸ (ih.2 w hw).1
      have h1 : w ∈ acc.1.waiters ∧ (w.id != w0.id) = true := List.mem_filter.mp h1
      refine ⟨h1.1, fun hm => ?_⟩
      rcases List.mem_cons.mp hm with rfl | hm
      · exact absurd h1.2 (by rw [bne_self_eq_false]; exact Bool.false_ne_true)
      · exact (ih.2 w hw).2 hm

theorem wake_leaves_unready (s : St) :
    (∀ j, slotReady (wakeWaiters s).1 j = slotReady s j) ∧
    ∀ w ∈ (wakeWaiters s).1.waiters, w ∈ s.waiters ∧ slotReady s w.slot = false := by
  rw [wakeWaiters_eq]
  have h := wake_fold s s.waiters (s, []) fun _ => rfl
  exact ⟨h.1, fun w hw => ⟨(h.2 w hw).1, (h.2 w hw).2 (h.2 w hw).1⟩⟩

/-- **C09** after every operation, whatever the history: no round-robin BIND pick is still waiting for a
    channel whose connection is READY — it has been handed that channel in the same step -/
theorem no_ready_waiter (s : St) (op : Op) :
    ∀ w ∈ (step s op).1.waiters, slotReady (step s op).1 w.slot = false := by
  rw [step_fst]
  intro w hw
  have h := wake_leaves_unready (stepCore s op).1
  exact (h.1 w.slot).trans (h.2 w hw).2

theorem no_ready_waiter_run (ci : CfgInput) (ops : List Op) :
    ∀ w ∈ (run (init ci) ops).waiters, slotReady (run (init ci) ops) w.slot = false :=
  run_induct (P := fun s => ∀ w ∈ s.waiters, slotReady s w.slot = false) ci (fun _ hw => nomatch hw)
    (fun s op _ => no_ready_waiter s op) ops

end GcpVerif.Pool
