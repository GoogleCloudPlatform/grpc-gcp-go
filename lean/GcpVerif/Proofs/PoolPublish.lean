/-
C04.2 / C04.3 — what the balancer has published always matches the pool, for every reachable state.
-/
import GcpVerif.Proofs.PoolTables
namespace GcpVerif.Pool

/-- `aggr` is the zero value until the first transition is recorded, afterwards the aggregate of the
    pool; whatever was published last is (aggr, picker); every published picker fails fast exactly
    when its state is TRANSIENT_FAILURE -/
structure Pub (s : St) : Prop where
  aggrOk : s.aggr = .idle ∨ s.aggr = aggregate s.scStates
  last : ∀ q, s.published.getLast? = some q → q.1 = s.aggr ∧ q.2 = s.picker ∧ s.aggr ≠ .idle
  all : ∀ q ∈ s.published, (q.2 = .errTF ↔ q.1 = .tf) ∧ q.2 ≠ .errNoSc

def SameP (s s' : St) : Prop :=
  s'.scStates = s.scStates ∧ s'.aggr = s.aggr ∧ s'.picker = s.picker ∧ s'.published = s.published

theorem SameP.refl (s : St) : SameP s s := ⟨rfl, rfl, rfl, rfl⟩
theorem SameP.trans {a b c : St} (h1 : SameP a b) (h2 : SameP b c) : SameP a c :=
  ⟨h2.1.trans h1.1, h2.2.1.trans h1.2.1, h2.2.2.1.trans h1.2.2.1, h2.2.2.2.trans h1.2.2.2⟩

theorem pub_of_same {s s' : St} (h : Pub s) (e : SameP s s') : Pub s' := by
  obtain ⟨e1, e2, e3, e4⟩ := e
  constructor
  · rw [e2, e1]; exact h.aggrOk
  · rw [e4, e2, e3]; exact h.last
  · rw [e4]; exact h.all

theorem pub_frame {s : St} (h : Pub s) {cfgIn cfg addrs nReady nConn nTF affinity fallback scRefs refs rr refreshingMap nextSc failN
    scAddrs removed now calls waiters held} :
    Pub { s with cfgIn, cfg, addrs, nReady, nConn, nTF, affinity, fallback, scRefs, refs, rr, refreshingMap, nextSc, failN,
                 scAddrs, removed, now, calls, waiters, held } :=
  pub_of_same h ⟨rfl, rfl, rfl, rfl⟩

theorem aggregate_of_counters {s : St} (t : Tables s) :
    aggregate s.scStates = if s.nReady > 0 then .ready else if s.nConn > 0 then .connecting else .tf := by
  simp only [aggregate, t.cReady, t.cConn]

/-- with exact counters before and after, an untouched evaluator means an unchanged aggregate -/
theorem pub_of_counters {s s' : St} (h : Pub s) (t : Tables s) (t' : Tables s') (hr : s'.nReady = s.nReady)
    (hc : s'.nConn = s.nConn) (ha : s'.aggr = s.aggr) (hp : s'.picker = s.picker)
    (hl : s'.published = s.published) : Pub s' := by
  refine ⟨?_, ?_, ?_⟩
  · rw [ha, aggregate_of_counters t', hr, hc, ← aggregate_of_counters t]; exact h.aggrOk
  · rw [hl, ha, hp]; exact h.last
  · rw [hl]; exact h.all

theorem recorded_aggr {s : St} (t : Tables s) {sc : Sc} {oldS : CState} (hst : stateOf s sc = some oldS) (st : CState) :
    (s.recorded sc oldS st).aggr = aggregate (s.recorded sc oldS st).scStates :=
  (aggregate_of_counters (tables_recorded t hst st)).symm

theorem pub_recorded {s : St} (h : Pub s) (t : Tables s) {sc : Sc} {oldS : CState} (hst : stateOf s sc = some oldS)
    (st : CState) (hp : publishes oldS st s.aggr (s.recorded sc oldS st).aggr = false) :
    Pub (s.recorded sc oldS st) := by
  have ha := recorded_aggr t hst st
  refine ⟨.inr ha, fun q hq => ?_, h.all⟩
  obtain ⟨hq1, hq2, hq3⟩ := h.last q hq
  have hs : s.aggr = aggregate s.scStates := h.aggrOk.resolve_left hq3
  obtain ⟨hp1, hp2⟩ := publishes_false.mp hp
  have hready : countState (s.recorded sc oldS st).scStates .ready = countState s.scStates .ready := by
    rw [← (tables_recorded t hst st).cReady, ← t.cReady]
    -- the other connections' READY count, plus this connection's READY-ness before and after
    have hn := t.cReady.trans (countState_erase t.ndS hst .ready)
    exact (counter_step .ready oldS st s.nReady _ hn).trans (by rw [hp1]; exact hn.symm)
  have hsame : (s.recorded sc oldS st).aggr = s.aggr := by
    rw [ha, hs] at hp2 ⊢; exact aggregate_eq_of hready hp2
  exact ⟨hq1.trans hsame.symm, hq2, by rw [hsame]; exact hq3⟩

theorem regenerate_picker (s : St) (o : List Slot) :
    ((regeneratePicker s o).picker = .errTF ↔ s.aggr = .tf) ∧ (regeneratePicker s o).picker ≠ .errNoSc := by
  rcases regeneratePicker_picker s o with ⟨h, e⟩ | ⟨h, l, e, _⟩ <;> rw [e]
  · exact ⟨⟨fun _ => h, fun _ => rfl⟩, nofun⟩
  · exact ⟨⟨nofun, fun h' => absurd h' h⟩, nofun⟩

theorem pub_republished {s : St} (hall : ∀ q ∈ s.published, (q.2 = .errTF ↔ q.1 = .tf) ∧ q.2 ≠ .errNoSc)
    (ha : s.aggr = aggregate s.scStates) (order : List Slot) : Pub (s.republished order) := by
  refine ⟨.inr ha, fun q hq => ?_, fun q hq => ?_⟩
  · rw [St.republished, List.getLast?_concat] at hq
    cases hq
    exact ⟨rfl, rfl, ha ▸ aggregate_ne_idle _⟩
  · rcases List.mem_append.mp hq with hq | hq
    · exact hall q hq
    · cases List.mem_singleton.mp hq
      exact regenerate_picker s order

theorem pub_stage {s0 s s' : St} {op : Op} (st : Stage s0 op s s') (t : Tables s) (h : Pub s) : Pub s' := by
  cases st with
  | addConn => exact pub_of_counters h t (tables_addConn t) rfl rfl rfl rfl rfl
  | swap sc _ slot r hl =>
    exact pub_of_counters h t (tables_swapped t (mem_keys_of_lookup hl) slot r.subConn) rfl rfl rfl rfl rfl
  | record sc st order oldS hst _ hp => exact pub_recorded h t hst st hp
  | publish sc st order oldS hst =>
    exact pub_republished (s := s.recorded sc oldS st) h.all (recorded_aggr t hst st) order
  | _ => exact pub_frame h

theorem pub_init (ci : CfgInput) : Pub (init ci) := by
  constructor
  · left; rfl
  · intro q hq; simp [init] at hq
  · intro q hq; simp [init] at hq

theorem pub_run (ci : CfgInput) (ops : List Op) : Pub (run (init ci) ops) :=
  run_with_tables pub_init pub_stage ci ops

/-- **C04.2** after every history, what the balancer last told the channel is the pool's aggregate:
    READY when a pool connection is READY, else CONNECTING when one is connecting, else
    TRANSIENT_FAILURE — computed over the connections in the pool and no others — together with the
    picker built for that state -/
theorem published_matches_pool (ci : CfgInput) (ops : List Op) (q : CState × Picker)
    (hq : (run (init ci) ops).published.getLast? = some q) :
    q.1 = aggregate (run (init ci) ops).scStates ∧ q.2 = (run (init ci) ops).picker := by
  have h := pub_run ci ops
  obtain ⟨h1, h2, h3⟩ := h.last q hq
  exact ⟨h1.trans (h.aggrOk.resolve_left h3), h2⟩

/-- **C04.3** every state ever published carried the error picker exactly when that state was
    TRANSIENT_FAILURE, and never the "no sub-connection" picker -/
theorem err_picker_iff_tf (ci : CfgInput) (ops : List Op) :
    ∀ q ∈ (run (init ci) ops).published, (q.2 = .errTF ↔ q.1 = .tf) ∧ q.2 ≠ .errNoSc :=
  (pub_run ci ops).all

/-- the publication log is not empty in general: the theorems above speak about real histories -/
example : ((run (init .absent) [.ccs 1, .scs 0 .connecting [], .scs 0 .ready [0], .scs 0 .tf []]).published.map (·.1))
    = [.ready, .tf] := by decide +kernel

end GcpVerif.Pool
