/-
C14.4 (a report of availability cancels the recovery window) and C14.7 (convergence), from the
timer invariant `TInv` (ME3) and the delayed-switch invariant `J` (ME2).
-/
import GcpVerif.Proofs.ME2
import GcpVerif.Proofs.ME3
namespace GcpVerif.ME

def liveRec (t : Timer) : Bool := !t.stopped && isRecoveryTimer t

theorem liveRecoveryCount_eq (s : St) : liveRecoveryCount s = s.timers.countP liveRec := by
  unfold liveRecoveryCount liveTimers
  rw [List.filter_filter, List.countP_eq_length_filter]
  congr 1
  apply List.filter_congr
  intro t _
  simp [liveRec, Bool.and_comm]

theorem countP_stopTimer (now : Int) (ts : List Timer) (tid : Nat) :
    (stopTimer now ts tid).countP liveRec = ts.countP fun t => liveRec t && t.tid != tid := by
  rw [stopTimer, List.countP_filterMap]
  congr 1
  funext t
  by_cases h : t.tid = tid
  · rw [if_pos (beq_iff_eq.mpr h), h, bne_self_eq_false, Bool.and_false]
    split <;> rfl
  · rw [if_neg (mt beq_iff_eq.mp h), bne_iff_ne.mpr h, Bool.and_true]
    rfl

theorem count_stop_none {now : Int} {ts : List Timer} {tid : Nat}
    (h : ∀ t ∈ ts, t.tid = tid → liveRec t = false) :
    (stopTimer now ts tid).countP liveRec = ts.countP liveRec := by
  rw [countP_stopTimer]
  apply List.countP_congr
  intro t ht
  by_cases htid : t.tid = tid
  · simp [htid, h t ht htid]
  · simp [htid]

theorem count_stop_one {now : Int} {ts : List Timer} {tid : Nat}
    (hnd : (ts.map (·.tid)).Nodup)
    (h : ∃ t ∈ ts, t.tid = tid ∧ liveRec t = true) :
    (stopTimer now ts tid).countP liveRec + 1 = ts.countP liveRec := by
  obtain ⟨t, ht, htid, hlive⟩ := h
  -- ids are distinct: the timers named `tid` are `t` alone, which is live
  have hone : ts.countP (fun t' => liveRec t' && !(t'.tid != tid)) = 1 := by
    have : ts.countP (fun t' => liveRec t' && !(t'.tid != tid)) = (ts.map (·.tid)).count tid := by
      rw [List.count_eq_countP, List.countP_map]
      apply List.countP_congr
      intro t' ht'
      simp only [Bool.and_eq_true, Bool.not_eq_true', bne_eq_false_iff_eq, Function.comp, beq_iff_eq]
      exact ⟨fun h' => h'.2, fun h' => ⟨by rw [inj_of_nodup_map _ hnd t' ht' t ht (h'.trans htid.symm)]; exact hlive, h'⟩⟩
    rw [this, hnd.count, if_pos (htid ▸ List.mem_map_of_mem ht)]
  rw [countP_stopTimer, List.countP_eq_countP_filter_add ts liveRec (fun t' => t'.tid != tid), List.countP_filter,
    List.countP_filter, hone]

theorem liveRecoveryCount_muc (s : St) : liveRecoveryCount (maybeUpdateCurrent s) = liveRecoveryCount s := by
  unfold liveRecoveryCount
  rw [muc_recovery_timers]

theorem liveRecoveryCount_setStateEp {s : St} (ht : TInv s none) {x : Ep} (hx : x ∈ s.eps) (st : Status) :
    liveRecoveryCount (setStateEp s x st) + (if x.status = .recovering then 1 else 0) = liveRecoveryCount s := by
  rw [liveRecoveryCount_eq, liveRecoveryCount_eq]
  show (stopOpt s.now s.timers x.timer).countP liveRec + _ = _
  by_cases hrec : x.status = .recovering
  · -- its own timer is live
    obtain ⟨t, htm, h1, h2, h3⟩ := ht.recov x hx hrec (by simp)
    rw [if_pos hrec, h1]
    exact count_stop_one ht.tidNd ⟨t, htm, rfl, by simp [liveRec, h2, isRecoveryTimer, h3]⟩
  · rw [if_neg hrec, Nat.add_zero]
    cases hxt : x.timer with
    | none => rfl
    | some tid =>
      refine count_stop_none fun t htm htid => ?_
      simp [liveRec, ht.quiet x hx hrec t htm (by rw [hxt, htid])]

/-- **C14.4** a report of availability makes the endpoint available at once; if it was inside its
    recovery window the window is cancelled — exactly one live recovery timer fewer is pending —
    and otherwise no recovery timer is touched -/
theorem c14_cancel_holds {s : St} (h : Reach s) (op : Op) : c14_cancel s op (stepRaw s op).1 = true := by
  unfold c14_cancel
  cases op with
  | setAvail e a =>
    cases a with
    | false => rfl
    | true =>
      simp only
      cases hf : findEp s.eps e with
      | none => rfl
      | some x =>
        obtain ⟨hxm, rfl⟩ := findEp_some hf
        have hpost : (stepRaw s (.setAvail x.id true)).1 = maybeUpdateCurrent (setStateEp s x .available) := by
          simp only [stepRaw, opSetAvail, setEndpointAvailability, hf, ↓reduceIte]
        have hfe : findEp (setStateEp s x .available).eps x.id = some (touch .available s.now x) :=
          findEp_of_mem (base_setStateEp (reach_inv h).toBase x .available).idInj
            (mem_updId_iff.mpr (.inl ⟨x, hxm, rfl, rfl⟩))
        have hcount := liveRecoveryCount_setStateEp (reach_tinv h) hxm .available
        simp only [hpost, liveRecoveryCount_muc, muc_eps _, hfe, touch, beq_self_eq_true, Bool.true_and]
        by_cases hrec : x.status = .recovering
        · rw [if_pos hrec] at hcount
          rw [if_pos (beq_iff_eq.mpr hrec)]
          exact beq_iff_eq.mpr hcount
        · rw [if_neg hrec, Nat.add_zero] at hcount
          rw [if_neg (mt beq_iff_eq.mp hrec)]
          exact beq_iff_eq.mpr hcount
  | setEndpoints l => rfl
  | advance dt => rfl
  | fire tid => rfl

/-! ### C14.7: convergence -/

/-- while `current` is not the highest-priority available endpoint, something is still pending:
    the current endpoint is inside its recovery window, or a delayed switch to that endpoint is armed -/
def V (s : St) : Prop :=
  ∀ T, topAvail s.eps = some T →
    s.current = T.id ∨ (∃ c, findEp s.eps s.current = some c ∧ c.status = .recovering) ∨
    (∃ t ∈ s.timers, t.kind = .switch ∧ t.stopped = false ∧ s.future = T.id)

theorem muc_V (s : St) : V (maybeUpdateCurrent s) := by
  obtain ⟨o, h, hm⟩ := muc_spec s
  rw [hm]
  intro T
  generalize nextCur s.eps s.current s.d = n at h ⊢
  cases h with
  | noAvail _ _ ht | goneNoAvail _ _ ht => intro hT; rw [ht] at hT; cases hT
  | guarded c t hc ht hrec => intro _; exact Or.inr (Or.inl ⟨c, hc, hrec⟩)
  | isTop c t _ ht hct => intro hT; rw [ht] at hT; cases hT; exact Or.inl hct
  | switch c t _ ht | gone t _ ht => intro hT; rw [ht] at hT; cases hT; exact Or.inl rfl
  | defer c t _ ht =>
    intro hT
    have : topAvail s.eps = some T := hT
    rw [ht] at this; cases this
    exact Or.inr (Or.inr ⟨_, List.mem_append.mpr (Or.inr (List.mem_singleton.mpr rfl)), rfl, rfl, rfl⟩)
  | empty h => intro hT; have := (topAvail_mem hT).1; rw [h] at this; cases this

theorem V_remove {s : St} (hv : V s) (ht : TInv s none) {t0 : Timer} (ht0 : t0 ∈ s.timers) (tid : Nat) (htid : t0.tid = tid)
    (hrec : t0.kind ≠ .switch) : V (dropTimer s tid) := by
  intro T hT
  rcases hv T hT with h | h | ⟨t, htm, hk, hs, hf⟩
  · exact Or.inl h
  · exact Or.inr (Or.inl h)
  · right; right
    refine ⟨t, ?_, hk, hs, hf⟩
    apply List.mem_filter.mpr
    refine ⟨htm, ?_⟩
    simp only [bne_iff_ne, ne_eq]
    intro heq
    have := ht.tidInj t htm t0 ht0 (by rw [heq, htid])
    rw [this] at hk
    exact hrec hk

theorem V_step {s : St} (hv : V s) (ht : TInv s none) (hi : Inv s) (hj : J s) (op : Op) : V (stepRaw s op).1 := by
  have hs := step_spec s op
  generalize (stepRaw s op).1 = s' at hs ⊢
  cases hs with
  | idle | advance => exact hv
  | report | list | expire | expireOrphan => exact muc_V _
  | stale tid t obj id stamp htm htid _ hk => exact V_remove hv ht htm tid htid (by rw [hk]; simp)
  | switch tid t htm _ _ hk =>
    have hj0 : J (dropTimer s tid) := hj
    intro T hT
    rw [fireSwitch_eps] at hT
    change topAvail s.eps = some T at hT
    have hTm := topAvail_mem hT
    rcases fireSwitch_top hj0 with ⟨hid, hblock⟩ | ⟨e, -, htop, hsw, -⟩
    · rw [hid]
      rcases hv T hT with h | h | ⟨t1, -, -, -, hf1⟩
      · exact Or.inl h
      · exact Or.inr (Or.inl h)
      · -- a delayed switch to `T` is armed and this closure does not perform it: the guard blocks
        -- because the current endpoint is recovering and outranks `T`
        have hfT : findEp s.eps s.future = some T := by rw [hf1]; exact findEp_of_mem hi.idInj hTm.1
        obtain ⟨c, hcf, hst, hlt⟩ := hblock T hfT hTm.2
        refine Or.inr (Or.inl ⟨c, hcf, ?_⟩)
        -- not unavailable, and not available either (it would outrank the top available endpoint)
        cases hcs : c.status with
        | unavailable => exact absurd hcs hst
        | recovering => rfl
        | available => have := topAvail_min hT c (findEp_some hcf).1 hcs; omega
    · -- a switch that acts goes to `T`
      rw [hsw]
      cases htop.symm.trans hT
      exact Or.inl rfl

theorem V_init {r d : Int} {l : List String} {s : St} (h : initRaw r d l = some s) : V s :=
  fun T hT => absurd (topAvail_mem hT).2 (init_not_available h T (topAvail_mem hT).1)

theorem reach_V {s : St} (h : Reach s) : V s := by
  induction h with
  | initRaw _ _ hi => exact V_init hi
  | stepRaw op hr ih => exact V_step ih (reach_tinv hr) (reach_inv hr) (reach_J hr) op

theorem reach_converged {s : St} (h : Reach s) : c14_converged s = true := by
  have hv := reach_V h
  have ht := reach_tinv h
  unfold c14_converged
  by_cases hcond : ((liveTimers s).isEmpty && anyAvail s.eps) = true
  · rw [if_pos hcond]
    rw [Bool.and_eq_true, List.isEmpty_iff] at hcond
    obtain ⟨hempty, hav⟩ := hcond
    obtain ⟨T, hT⟩ := anyAvail_iff_topAvail.mp hav
    rw [hT]
    have hnolive : ∀ t ∈ s.timers, t.stopped ≠ false := fun t htm hs =>
      List.filter_eq_nil_iff.mp hempty t htm (by rw [hs]; rfl)
    rcases hv T hT with h1 | ⟨c, hc, hrec⟩ | ⟨t, htm, _, hs, _⟩
    · exact beq_iff_eq.mpr h1
    · obtain ⟨t, htm, _, hs, _⟩ := ht.recov c (findEp_some hc).1 hrec (by simp)
      exact absurd hs (hnolive t htm)
    · exact absurd hs (hnolive t htm)
  · rw [if_neg hcond]

/-- **C14.7** once inputs stop and every pending timer has fired, `current` is the highest-priority
    available endpoint, if any endpoint is available -/
theorem c14_converged_holds {s : St} (h : Reach s) (op : Op) : c14_converged (stepRaw s op).1 = true :=
  reach_converged (Reach.stepRaw op h)

end GcpVerif.ME
