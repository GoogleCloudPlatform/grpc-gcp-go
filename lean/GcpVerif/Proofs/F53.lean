/-
C18: the executable float model `F53` (round-to-nearest-even, 53-bit significands — compared bit for
bit with Go's float64 on every run) satisfies the `Laws` the backoff theorems assume.  Hence
`backoff_ge_base`, `backoff_le_max`, `backoff_mono_retries` hold for the arithmetic the prober runs.

Everything goes through two readings: `sc a k`, the value of `a` in units of `2^k`, turns the order
and truncation into facts about `Nat`; `rnd m = qr m * 2^(log2 m - 52)`, for every `m` (no bit is
dropped below 2^53), turns `norm` into a function on `Nat`.
-/
import GcpVerif.Model.Prober
import GcpVerif.Proofs.Prober
namespace GcpVerif.Prober
open F53

/-- a * 2^e scaled to the common exponent `k` (k ≤ e) -/
def sc (a : F53) (k : Int) : Nat := a.m * 2 ^ ((a.e - k).toNat)

theorem sc_shift (a : F53) {k k' : Int} (h1 : k' ≤ k) (h2 : k ≤ a.e) :
    sc a k' = sc a k * 2 ^ ((k - k').toNat) := by
  unfold sc
  rw [Nat.mul_assoc, ← Nat.pow_add, ← Int.toNat_add (Int.sub_nonneg.2 h2) (Int.sub_nonneg.2 h1),
    ← Int.add_sub_assoc, Int.sub_add_cancel]

theorem sc_of_eq {a : F53} {k : Int} {d : Nat} (h : a.e = k + d) : sc a k = a.m * 2 ^ d := by
  unfold sc
  rw [h, Int.add_comm, Int.add_sub_cancel, Int.toNat_natCast]

/-- the comparison does not depend on the common exponent chosen -/
theorem leQ_iff_sc (a b : F53) {k : Int} (ha : k ≤ a.e) (hb : k ≤ b.e) :
    leQ a b = true ↔ sc a k ≤ sc b k := by
  have h : leQ a b = true ↔ sc a (min a.e b.e) ≤ sc b (min a.e b.e) := decide_eq_true_iff
  rw [h, sc_shift a (Int.le_min.2 ⟨ha, hb⟩) (Int.min_le_left ..),
    sc_shift b (Int.le_min.2 ⟨ha, hb⟩) (Int.min_le_right ..)]
  exact (Nat.mul_le_mul_right_iff (Nat.two_pow_pos _)).symm

theorem leQ_refl (a : F53) : leQ a a = true :=
  (leQ_iff_sc a a (Int.le_refl _) (Int.le_refl _)).2 (Nat.le_refl _)

theorem leQ_trans {a b c : F53} (h1 : leQ a b = true) (h2 : leQ b c = true) : leQ a c = true := by
  have ka : min a.e (min b.e c.e) ≤ a.e := Int.min_le_left ..
  have kb : min a.e (min b.e c.e) ≤ b.e := Int.le_trans (Int.min_le_right ..) (Int.min_le_left ..)
  have kc : min a.e (min b.e c.e) ≤ c.e := Int.le_trans (Int.min_le_right ..) (Int.min_le_right ..)
  exact (leQ_iff_sc a c ka kc).2
    (Nat.le_trans ((leQ_iff_sc a b ka kb).1 h1) ((leQ_iff_sc b c kb kc).1 h2))

theorem leQ_total (a b : F53) : leQ a b = true ∨ leQ b a = true := by
  rw [leQ_iff_sc a b (Int.min_le_left ..) (Int.min_le_right ..),
    leQ_iff_sc b a (Int.min_le_right ..) (Int.min_le_left ..)]
  exact Nat.le_total _ _

/-- round up? (`k` bits dropped, `q` kept, `r` dropped): more than half, or half and `q` odd -/
def rup (k q r : Nat) : Bool := r > 2 ^ (k - 1) || (r == 2 ^ (k - 1) && q % 2 == 1)

/-- the kept significand after rounding -/
def qr (m : Nat) : Nat :=
  let k := log2 m - 52
  if rup k (m / 2 ^ k) (m % 2 ^ k) then m / 2 ^ k + 1 else m / 2 ^ k

/-- the value of `norm m e` in units of 2^e -/
def rnd (m : Nat) : Nat := if m < 2 ^ 53 then m else qr m * 2 ^ (log2 m - 52)

theorem rup_mono {k q r r' : Nat} (h : r ≤ r') (hu : rup k q r = true) : rup k q r' = true := by
  unfold rup at hu ⊢
  simp only [Bool.or_eq_true, decide_eq_true_eq, Bool.and_eq_true, beq_iff_eq] at hu ⊢
  rcases hu with hu | ⟨hu1, hu2⟩
  · left; omega
  · by_cases he : r' = 2 ^ (k - 1)
    · right; exact ⟨he, hu2⟩
    · left; omega

theorem ite_succ (c : Prop) [Decidable c] (q : Nat) :
    q ≤ (if c then q + 1 else q) ∧ (if c then q + 1 else q) ≤ q + 1 := by
  split
  · exact ⟨Nat.le_succ _, Nat.le_refl _⟩
  · exact ⟨Nat.le_refl _, Nat.le_succ _⟩

theorem qr_bounds (m : Nat) :
    m / 2 ^ (log2 m - 52) ≤ qr m ∧ qr m ≤ m / 2 ^ (log2 m - 52) + 1 := ite_succ _ _

theorem qr_mono {a b : Nat} (h : a ≤ b) (hk : log2 a - 52 = log2 b - 52) : qr a ≤ qr b := by
  unfold qr
  simp only
  rw [hk]
  generalize log2 b - 52 = k
  by_cases hq : a / 2 ^ k = b / 2 ^ k
  · -- same kept bits: the dropped part decides, monotonically
    have hmod : a % 2 ^ k ≤ b % 2 ^ k := by
      have e1 := Nat.div_add_mod a (2 ^ k)
      have e2 := Nat.div_add_mod b (2 ^ k)
      rw [hq] at e1
      omega
    rw [hq]
    by_cases hu : rup k (b / 2 ^ k) (a % 2 ^ k) = true
    · rw [if_pos hu, if_pos (rup_mono hmod hu)]; exact Nat.le_refl _
    · rw [if_neg hu]; exact (ite_succ _ _).1
  · -- fewer kept bits: at least one unit apart
    have hlt : a / 2 ^ k + 1 ≤ b / 2 ^ k := Nat.lt_of_le_of_ne (Nat.div_le_div_right h) hq
    exact Nat.le_trans (ite_succ _ _).2 (Nat.le_trans hlt (ite_succ _ _).1)

theorem drop_small {m : Nat} (h : m < 2 ^ 53) : log2 m - 52 = 0 := by
  by_cases h0 : m = 0
  · subst h0; rfl
  · have := (Nat.log2_lt h0).2 h
    unfold log2; omega

theorem qr_small {m : Nat} (h : log2 m - 52 = 0) : qr m = m := by
  unfold qr
  rw [h]
  simp [rup, Nat.mod_one]

theorem lt_binade (m : Nat) : m < 2 ^ 53 * 2 ^ (log2 m - 52) := by
  rw [← Nat.pow_add]
  exact Nat.lt_of_lt_of_le Nat.lt_log2_self (Nat.pow_le_pow_right (by decide) (by unfold log2; omega))

theorem binade_le {m : Nat} (h : log2 m - 52 ≠ 0) : 2 ^ 52 * 2 ^ (log2 m - 52) ≤ m := by
  have hL : 52 ≤ Nat.log2 m := Nat.le_of_lt (Nat.lt_of_sub_ne_zero h)
  rw [← Nat.pow_add, show 52 + (log2 m - 52) = Nat.log2 m from Nat.add_sub_cancel' hL]
  exact Nat.log2_self_le fun h0 => by rw [h0] at h; exact h rfl

theorem rnd_eq (m : Nat) : rnd m = qr m * 2 ^ (log2 m - 52) := by
  unfold rnd
  split
  · rename_i h; rw [qr_small (drop_small h), drop_small h, Nat.pow_zero, Nat.mul_one]
  · rfl

theorem qr_le (m : Nat) : qr m ≤ 2 ^ 53 :=
  Nat.le_trans (qr_bounds m).2 ((Nat.div_lt_iff_lt_mul (Nat.two_pow_pos _)).2 (lt_binade m))

theorem le_qr {m : Nat} (h : log2 m - 52 ≠ 0) : 2 ^ 52 ≤ qr m :=
  Nat.le_trans ((Nat.le_div_iff_mul_le (Nat.two_pow_pos _)).2 (binade_le h)) (qr_bounds m).1

theorem log2_mono {a b : Nat} (h : a ≤ b) : Nat.log2 a ≤ Nat.log2 b := by
  by_cases ha : a = 0
  · subst ha; rw [Nat.log2_zero]; exact Nat.zero_le _
  · exact (Nat.le_log2 (by omega)).2 (Nat.le_trans (Nat.log2_self_le ha) h)

/-- rounding to nearest (ties to even) is monotone -/
theorem rnd_mono {a b : Nat} (h : a ≤ b) : rnd a ≤ rnd b := by
  rw [rnd_eq, rnd_eq]
  by_cases hk : log2 a - 52 = log2 b - 52
  · rw [hk]; exact Nat.mul_le_mul_right _ (qr_mono h hk)
  · -- fewer dropped bits on the left: a whole binade below
    have hlt : log2 a - 52 < log2 b - 52 :=
      Nat.lt_of_le_of_ne (Nat.sub_le_sub_right (log2_mono h) 52) hk
    calc qr a * 2 ^ (log2 a - 52) ≤ 2 ^ 53 * 2 ^ (log2 a - 52) := Nat.mul_le_mul_right _ (qr_le a)
      _ = 2 ^ 52 * 2 ^ (log2 a - 52 + 1) := by
        rw [Nat.pow_succ 2 (log2 a - 52), Nat.mul_comm _ 2, ← Nat.mul_assoc]
      _ ≤ 2 ^ 52 * 2 ^ (log2 b - 52) := Nat.mul_le_mul_left _ (Nat.pow_le_pow_right (by decide) hlt)
      _ ≤ qr b * 2 ^ (log2 b - 52) := Nat.mul_le_mul_right _ (le_qr (Nat.ne_zero_of_lt hlt))

/-- multiplying by 1.5 and rounding does not go below the operand: `rnd (3m) ≥ 2m` (units: half the operand's) -/
theorem rnd_three (m : Nat) : 2 * m ≤ rnd (3 * m) := by
  rw [rnd_eq]
  by_cases h0 : log2 (3 * m) - 52 = 0
  · rw [qr_small h0, h0]; omega
  · -- the floor loses less than 2^k ≤ 3m / 2^52 ≤ m
    have hb := binade_le h0
    have hfl := Nat.lt_div_mul_add (a := 3 * m) (Nat.two_pow_pos (log2 (3 * m) - 52))
    have hge := Nat.mul_le_mul_right (2 ^ (log2 (3 * m) - 52)) (qr_bounds (3 * m)).1
    omega

theorem norm_eq (m : Nat) (e : Int) : norm m e =
    if m < 2 ^ 53 then ⟨m, e⟩
    else if qr m < 2 ^ 53 then ⟨qr m, e + (log2 m - 52 : Nat)⟩
    else ⟨qr m / 2, e + (log2 m - 52 : Nat) + 1⟩ := rfl

theorem norm_val (m : Nat) (e : Int) : e ≤ (norm m e).e ∧ sc (norm m e) e = rnd m := by
  rw [norm_eq, rnd_eq]
  by_cases hs : m < 2 ^ 53
  · rw [if_pos hs, qr_small (drop_small hs), drop_small hs]
    exact ⟨Int.le_refl _, sc_of_eq (Int.add_zero e).symm⟩
  · rw [if_neg hs]
    by_cases hq : qr m < 2 ^ 53
    · rw [if_pos hq]
      exact ⟨Int.le_add_of_nonneg_right (Int.natCast_nonneg _), sc_of_eq rfl⟩
    · -- the significand was rounded up to 2^53: halved, at the next exponent
      rw [if_neg hq, Nat.le_antisymm (qr_le m) (Nat.le_of_not_lt hq), Int.add_assoc, ← Int.natCast_add_one]
      refine ⟨Int.le_add_of_nonneg_right (Int.natCast_nonneg _), ?_⟩
      rw [sc_of_eq rfl, Nat.pow_succ 2 (log2 m - 52), Nat.mul_comm _ 2, ← Nat.mul_assoc]
      rfl

/-- the executable float model as an instance of the abstract rounded arithmetic -/
def F53R : Rounded :=
  { F := F53
    le := fun a b => leQ a b = true
    decLe := fun _ _ => inferInstance
    ofInt := fun n => ofNat n.toNat
    toInt := fun x => (F53.toNat x : Int)
    mul15 := F53.mul15 }

theorem ofNat_mono {a b : Nat} (h : a ≤ b) : leQ (ofNat a) (ofNat b) = true := by
  obtain ⟨ea, va⟩ := norm_val a 0
  obtain ⟨eb, vb⟩ := norm_val b 0
  unfold ofNat
  rw [leQ_iff_sc _ _ ea eb, va, vb]
  exact rnd_mono h

theorem toNat_sc (a : F53) {k : Int} (hk : k ≤ a.e) (hk0 : k ≤ 0) :
    F53.toNat a = sc a k / 2 ^ ((-k).toNat) := by
  unfold F53.toNat sc
  by_cases he : a.e ≥ 0
  · -- a.e - k = a.e + -k, both non-negative
    rw [if_pos he, Int.sub_eq_add_neg, Int.toNat_add he (Int.neg_nonneg.2 hk0), Nat.pow_add, ← Nat.mul_assoc,
      Nat.mul_div_cancel _ (Nat.two_pow_pos _)]
  · -- -k = (a.e - k) + -a.e, both non-negative
    have e : -k = a.e - k + -a.e := by omega
    rw [if_neg he, e, Int.toNat_add (Int.sub_nonneg.2 hk) (Int.neg_nonneg.2 (Int.le_of_not_le he)), Nat.pow_add,
      Nat.mul_comm (2 ^ _) (2 ^ _), Nat.mul_div_mul_right _ _ (Nat.two_pow_pos _)]

theorem toNat_mono {x y : F53} (h : leQ x y = true) : F53.toNat x ≤ F53.toNat y := by
  have kx : min (min x.e y.e) 0 ≤ x.e := Int.le_trans (Int.min_le_left ..) (Int.min_le_left ..)
  have ky : min (min x.e y.e) 0 ≤ y.e := Int.le_trans (Int.min_le_left ..) (Int.min_le_right ..)
  have k0 : min (min x.e y.e) 0 ≤ 0 := Int.min_le_right ..
  rw [toNat_sc x kx k0, toNat_sc y ky k0]
  exact Nat.div_le_div_right ((leQ_iff_sc x y kx ky).mp h)

theorem rnd_exact {n : Nat} (h : n ≤ 2 ^ 53) : rnd n = n := by
  by_cases hs : n < 2 ^ 53
  · exact if_pos hs
  · cases Nat.le_antisymm h (Nat.le_of_not_lt hs)
    decide +kernel

theorem toNat_ofNat (n : Nat) (h : n ≤ 2 ^ 53) : F53.toNat (ofNat n) = n := by
  obtain ⟨e0, v⟩ := norm_val n 0
  rw [ofNat, toNat_sc _ e0 (Int.le_refl 0), v, rnd_exact h]
  exact Nat.div_one n

theorem mul15_ge (x : F53) : leQ x (F53.mul15 x) = true := by
  obtain ⟨e1, v1⟩ := norm_val (x.m * 3) (x.e - 1)
  unfold F53.mul15
  rw [leQ_iff_sc _ _ (Int.sub_le_self _ (by decide)) e1, v1,
    sc_of_eq (a := x) (k := x.e - 1) (d := 1) (Int.sub_add_cancel x.e 1).symm, Nat.mul_comm x.m 3, Nat.mul_comm x.m]
  exact rnd_three x.m

/-- **C18** the executable model of float64 satisfies every law the backoff theorems assume -/
theorem f53_laws : Laws F53R where
  le_refl a := leQ_refl a
  le_trans _ _ _ h1 h2 := leQ_trans h1 h2
  le_total a b := leQ_total a b
  ofInt_mono a b h := ofNat_mono (Int.toNat_le_toNat h)
  toInt_mono x y h := Int.ofNat_le.2 (toNat_mono h)
  toInt_ofInt n h0 h53 := by
    show (F53.toNat (ofNat n.toNat) : Int) = n
    rw [toNat_ofNat _ (Int.toNat_le.2 h53), Int.toNat_of_nonneg h0]
  mul15_ge x _ := mul15_ge x

/-- the model writes its tests `!b`, the abstract loop `¬ b = true` -/
theorem ite_bnot {α} (b : Bool) (x y : α) : (if !b then x else y) = if ¬ b = true then x else y := by
  cases b <;> rfl

theorem go_eq (m x : F53) (n : Nat) : backoffF53.go m x n = loop F53R m x n := by
  induction n generalizing x with
  | zero => rfl
  | succ n ih =>
    show (if !(leQ m x) then backoffF53.go m (F53.mul15 x) n else x) = _
    rw [ite_bnot, ih]
    rfl

theorem ofInt_natCast (n : Nat) : F53R.ofInt n = ofNat n := congrArg ofNat (Int.toNat_natCast n)

/-- the function the driver runs is the abstract `backoff` at this instance -/
theorem backoffF53_eq (base max : Nat) (retries : Int) :
    (backoffF53 base max retries : Int) = backoff F53R base max retries := by
  show ((F53.toNat (if !(leQ _ _) then _ else _) : Nat) : Int) = _
  rw [ite_bnot, go_eq, backoff, ofInt_natCast, ofInt_natCast]
  rfl

/-- **C18** for the arithmetic the prober really runs (the model compared bit for bit with Go's float64):
    for delays 0 ≤ base ≤ max ≤ 2^53 ns the backoff lies between base and max and never shrinks with
    the retry count -/
theorem backoffF53_bounds (base max : Nat) (retries : Int) (hbm : base ≤ max) (h53 : max ≤ 2 ^ 53) :
    base ≤ backoffF53 base max retries ∧ backoffF53 base max retries ≤ max ∧
    backoffF53 base max retries ≤ backoffF53 base max (retries + 1) := by
  have hb : (0 : Int) ≤ base := Int.natCast_nonneg _
  have h1 := backoff_ge_base f53_laws base max retries hb (Int.ofNat_le.2 hbm) (Int.ofNat_le.2 h53)
  have h2 := backoff_le_max f53_laws base max retries hb (Int.ofNat_le.2 hbm) (Int.ofNat_le.2 h53)
  have h3 := backoff_mono_retries f53_laws base max retries hb
  rw [← backoffF53_eq] at h1 h2 h3
  rw [← backoffF53_eq] at h3
  exact ⟨Int.ofNat_le.1 h1, Int.ofNat_le.1 h2, Int.ofNat_le.1 h3⟩

example : backoffF53 200000000 5000000000 8 = 5000000000 ∧ backoffF53 200000000 5000000000 3 = 675000000 := by
  decide +kernel

end GcpVerif.Prober
