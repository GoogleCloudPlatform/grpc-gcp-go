/-
C18: the prober's helpers — the backoff, for every rounded arithmetic that satisfies `Laws`; the
parsing of the GFE latency header; flag validation and the resource names built from the flags.
-/
import GcpVerif.Model.Prober
import GcpVerif.Generated.Consts
namespace GcpVerif.Prober

/-- the facts about floating point the proof uses: a total order, monotone conversions, exact
    integers up to 2^53, and `x * 1.5 ≥ x` for `x ≥ 0` (monotone rounding). IEEE-754 binary64 with
    round-to-nearest satisfies them; this is an assumption of the theorem, not an axiom of ours. -/
structure Laws (R : Rounded) : Prop where
  le_refl : ∀ a, R.le a a
  le_trans : ∀ a b c, R.le a b → R.le b c → R.le a c
  le_total : ∀ a b, R.le a b ∨ R.le b a
  ofInt_mono : ∀ a b : Int, a ≤ b → R.le (R.ofInt a) (R.ofInt b)
  toInt_mono : ∀ x y, R.le x y → R.toInt x ≤ R.toInt y
  toInt_ofInt : ∀ n : Int, 0 ≤ n → n ≤ 2^53 → R.toInt (R.ofInt n) = n
  mul15_ge : ∀ x, R.le (R.ofInt 0) x → R.le x (R.mul15 x)

variable {R : Rounded}

theorem loop_step (m x : R.F) (n : Nat) :
    loop R m x (n + 1) = if ¬ R.le m x then loop R m (R.mul15 x) n else x := rfl

theorem loop_ge (L : Laws R) (m x : R.F) (n : Nat) (h0 : R.le (R.ofInt 0) x) :
    R.le x (loop R m x n) := by
  induction n generalizing x with
  | zero => exact L.le_refl x
  | succ n ih =>
    rw [loop_step]
    split
    · have h1 := L.mul15_ge x h0
      exact L.le_trans _ _ _ h1 (ih _ (L.le_trans _ _ _ h0 h1))
    · exact L.le_refl x

theorem loop_succ (m x : R.F) (n : Nat) :
    loop R m x (n + 1) = if ¬ R.le m (loop R m x n) then R.mul15 (loop R m x n) else loop R m x n := by
  induction n generalizing x with
  | zero => rfl
  | succ n ih =>
    rw [loop_step m x (n + 1), loop_step m x n]
    by_cases h : R.le m x
    · -- already at/over the maximum: nothing changes any more
      simp only [h, not_true_eq_false, ↓reduceIte]
    · rw [if_pos h, if_pos h]
      exact ih _

theorem loop_nonneg (L : Laws R) (m x : R.F) (n : Nat) (h0 : R.le (R.ofInt 0) x) :
    R.le (R.ofInt 0) (loop R m x n) := L.le_trans _ _ _ h0 (loop_ge L m x n h0)

theorem loop_mono_n (L : Laws R) (m x : R.F) (n : Nat) (h0 : R.le (R.ofInt 0) x) :
    R.le (loop R m x n) (loop R m x (n + 1)) := by
  rw [loop_succ]
  split
  · exact L.mul15_ge _ (loop_nonneg L m x n h0)
  · exact L.le_refl _

/-- the clamp `if b > max { b = max }` -/
def clamp (R : Rounded) (m b : R.F) : R.F := if ¬ R.le b m then m else b

theorem clamp_le (L : Laws R) (m b : R.F) : R.le (clamp R m b) m := by
  unfold clamp; split
  · exact L.le_refl m
  · rename_i h; exact Classical.not_not.mp h

theorem clamp_mono (L : Laws R) (m a b : R.F) (h : R.le a b) : R.le (clamp R m a) (clamp R m b) := by
  by_cases hb : R.le b m
  · rw [clamp, clamp, if_neg (not_not_intro (L.le_trans _ _ _ h hb)), if_neg (not_not_intro hb)]
    exact h
  · -- `b` is cut to `m`, which bounds every clamped value
    rw [show clamp R m b = m from if_pos hb]
    exact clamp_le L m a

theorem backoff_eq (base max retries : Int) :
    backoff R base max retries = R.toInt (clamp R (R.ofInt max) (loop R (R.ofInt max) (R.ofInt base) retries.toNat)) := rfl

/-- C18: the backoff is at least the base delay -/
theorem backoff_ge_base (L : Laws R) (base max retries : Int)
    (h0 : 0 ≤ base) (hbm : base ≤ max) (h53 : max ≤ 2^53) : base ≤ backoff R base max retries := by
  rw [backoff_eq]
  have hb0 : R.le (R.ofInt 0) (R.ofInt base) := L.ofInt_mono _ _ h0
  have h1 := loop_ge L (R.ofInt max) (R.ofInt base) retries.toNat hb0
  have h2 : R.le (R.ofInt base) (clamp R (R.ofInt max) (loop R (R.ofInt max) (R.ofInt base) retries.toNat)) := by
    unfold clamp; split
    · exact L.ofInt_mono _ _ hbm
    · exact h1
  have := L.toInt_mono _ _ h2
  rw [L.toInt_ofInt base h0 (by omega)] at this
  exact this

/-- C18: the backoff is at most the maximum delay -/
theorem backoff_le_max (L : Laws R) (base max retries : Int)
    (h0 : 0 ≤ base) (hbm : base ≤ max) (h53 : max ≤ 2^53) : backoff R base max retries ≤ max := by
  rw [backoff_eq]
  have := L.toInt_mono _ _ (clamp_le L (R.ofInt max) (loop R (R.ofInt max) (R.ofInt base) retries.toNat))
  rw [L.toInt_ofInt max (by omega) h53] at this
  exact this

/-- C18: the backoff is non-decreasing in the retry count -/
theorem backoff_mono_retries (L : Laws R) (base max retries : Int) (h0 : 0 ≤ base) :
    backoff R base max retries ≤ backoff R base max (retries + 1) := by
  rw [backoff_eq, backoff_eq]
  apply L.toInt_mono
  apply clamp_mono L
  by_cases hr : 0 ≤ retries
  · rw [Int.toNat_add hr (by decide)]
    exact loop_mono_n L _ _ _ (L.ofInt_mono _ _ h0)
  · -- a negative count runs no iteration, and neither does its successor
    rw [Int.toNat_of_nonpos (by omega), Int.toNat_of_nonpos (show retries + 1 ≤ 0 by omega)]
    exact L.le_refl _

/-- exact arithmetic on dyadic rationals (no rounding at all), a second `Rounded` beside the executable `F53`;
    `Laws` is proved for `F53` only (`f53_laws`: that is what makes the three theorems non-vacuous) -/
def exactR : Rounded :=
  { F := Int × Nat      -- numerator, and power of two of the denominator: n / 2^k
    le := fun a b => a.1 * 2^b.2 ≤ b.1 * 2^a.2
    decLe := fun _ _ => inferInstance
    ofInt := fun n => (n, 0)
    toInt := fun a => a.1 / 2^a.2
    mul15 := fun a => (a.1 * 3, a.2 + 1) }

/-- the server-timing *header* is read in preference to the trailer -/
theorem t4t7_header_first (key pfx : String) (h t t' : MD) (hne : (mdGet h key).length > 0) :
    parseT4T7 key pfx h t = parseT4T7 key pfx h t' := by
  simp [parseT4T7, hne]

/-- without a header entry the trailer is used -/
theorem t4t7_trailer_fallback (key pfx : String) (h t : MD) (hh : (mdGet h key).length = 0)
    (ht : (mdGet t key).length > 0) : parseT4T7 key pfx h t = parseT4T7 key pfx t [] := by
  simp [parseT4T7, hh, ht]

/-- neither header nor trailer: error -/
theorem t4t7_absent (key pfx : String) (h t : MD) (hh : (mdGet h key).length = 0)
    (ht : (mdGet t key).length = 0) : parseT4T7 key pfx h t = none := by
  simp [parseT4T7, hh, ht]

/-- the duration of the *first* gfet4t7 entry is returned; later entries are ignored -/
theorem t4t7_first_entry (key pfx : String) (h t : MD) (e : String) (rest before : List String)
    (hh : mdGet h key = before ++ e :: rest) (hb : ∀ x ∈ before, x.startsWith pfx = false)
    (he : e.startsWith pfx = true) :
    parseT4T7 key pfx h t =
      (parseInt64 (e.drop pfx.length).toString).map fun ms => wrap64 (ms * 1000000) := by
  have hlen : (before ++ e :: rest).length > 0 := by simp; omega
  have hfind : (before ++ e :: rest).find? (fun x => x.startsWith pfx) = some e := by
    rw [List.find?_append, List.find?_eq_none.2 fun x hx => Bool.eq_false_iff.1 (hb x hx), Option.none_or]
    exact List.find?_cons_of_pos he
  simp only [parseT4T7, hh, hlen, ↓reduceIte, hfind]
  cases parseInt64 (e.drop pfx.length).toString <;> rfl

/-- no gfet4t7 entry at all: error -/
theorem t4t7_no_entry (key pfx : String) (h t : MD) (hlen : (mdGet h key).length > 0)
    (hb : ∀ x ∈ mdGet h key, x.startsWith pfx = false) : parseT4T7 key pfx h t = none := by
  have : (mdGet h key).find? (fun x => x.startsWith pfx) = none :=
    List.find?_eq_none.2 fun x hx => Bool.eq_false_iff.1 (hb x hx)
  simp [parseT4T7, hlen, this]

/-- while the millisecond value fits, the result is exact (no wrap-around) -/
theorem wrap64_exact (ms : Int) (h : -9223372036854 ≤ ms ∧ ms ≤ 9223372036854) :
    wrap64 (ms * 1000000) = ms * 1000000 := by
  unfold wrap64; omega

open GcpVerif.KeyPath (splitChars)

theorem splitChars_no_sep (sep : Char) (l : List Char) (h : sep ∉ l) : splitChars sep l = [l] := by
  induction l with
  | nil => rfl
  | cons c cs ih =>
    simp only [List.mem_cons, not_or] at h
    have hc : (c == sep) = false := by simpa using fun heq => h.1 heq.symm
    simp [splitChars, hc, ih h.2]

theorem splitChars_append (sep : Char) (a rest : List Char) (h : sep ∉ a) :
    splitChars sep (a ++ sep :: rest) = a :: splitChars sep rest := by
  induction a with
  | nil => simp [splitChars]
  | cons c cs ih =>
    simp only [List.mem_cons, not_or] at h
    have hc : (c == sep) = false := by simpa using fun heq => h.1 heq.symm
    simp [splitChars, hc, ih h.2]

/-- a string all of whose characters are in a class that excludes '/' contains no '/' -/
theorem no_slash_of_match (cls : Char → Bool) (hcls : cls '/' = false) (s : String)
    (h : matchAll cls s = true) : '/' ∉ s.toList := by
  intro hm
  simp only [matchAll, List.all_eq_true] at h
  have := h '/' hm
  rw [hcls] at this; cases this

theorem noslash_projects : '/' ∉ "projects".toList := by decide +kernel
theorem noslash_instances : '/' ∉ "instances".toList := by decide +kernel
theorem noslash_databases : '/' ∉ "databases".toList := by decide +kernel

/-- **C18** the path segments of the database URI are exactly the supplied project, instance and
    database whenever none of them contains '/': nothing can be injected -/
theorem databaseURI_segments (p i d : List Char) (hp : '/' ∉ p) (hi : '/' ∉ i) (hd : '/' ∉ d) :
    splitChars '/' ("projects".toList ++ '/' :: (p ++ '/' :: ("instances".toList ++ '/' :: (i ++ '/' ::
      ("databases".toList ++ '/' :: d))))) =
    ["projects".toList, p, "instances".toList, i, "databases".toList, d] := by
  rw [splitChars_append _ _ _ noslash_projects, splitChars_append _ _ _ hp,
      splitChars_append _ _ _ noslash_instances, splitChars_append _ _ _ hi,
      splitChars_append _ _ _ noslash_databases, splitChars_no_sep _ _ hd]

theorem instanceURI_segments (p i : List Char) (hp : '/' ∉ p) (hi : '/' ∉ i) :
    splitChars '/' ("projects".toList ++ '/' :: (p ++ '/' :: ("instances".toList ++ '/' :: i))) =
    ["projects".toList, p, "instances".toList, i] := by
  rw [splitChars_append _ _ _ noslash_projects, splitChars_append _ _ _ hp,
      splitChars_append _ _ _ noslash_instances, splitChars_no_sep _ _ hi]

/-- the regular expressions regenerated from spanner_prober/main.go are of the form `^[class]*$`
    and their classes exclude '/' — re-checked against the current source on every run -/
theorem generated_regexes_exclude_slash :
    GcpVerif.Generated.flagRegexes.all (fun p =>
      match parseClass p.2 with
      | some cls => !cls '/'
      | none => false) = true := by
  decide +kernel

/-- every flag that ends up in a resource name has a regex applied to it -/
theorem generated_regexes_cover :
    ["project", "instance_name", "database_name", "instanceConfig"].all
      (fun f => GcpVerif.Generated.flagRegexes.any fun p => p.1 == f) = true := by
  decide +kernel

/-- validation counts an error for a probe type outside the table (its last summand), whatever
    the tables are -/
theorem probeType_of_validateFlags {rs : List (String × String)} {pts : List String} {f : Flags}
    (h : validateFlags rs pts f = 0) : pts.contains f.probeType = true := by
  have h9 : (if pts.contains f.probeType then 0 else 1) = 0 := (Nat.add_eq_zero_iff.mp h).2
  by_cases hc : pts.contains f.probeType = true
  · exact hc
  · rw [if_neg hc] at h9; cases h9

/-- a probe type accepted by validation is one ParseProbeType knows (same table) -/
theorem accepted_probe_type_parses (f : Flags)
    (h : validateFlags GcpVerif.Generated.flagRegexes GcpVerif.Generated.probeTypes f = 0) :
    GcpVerif.Generated.probeTypes.contains f.probeType = true :=
  probeType_of_validateFlags h

end GcpVerif.Prober
