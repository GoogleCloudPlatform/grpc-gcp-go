/-
C05 at Reach level for the pool: after every history, no call into the balancer or a picker takes
one of the branches on which the Go code would dereference nil, index an empty list or divide by
zero.  The model marks those branches with the event `res "PANIC"`; the theorem is that the event
never occurs.

Invariant `Valid`: every slot number stored anywhere (slot table, published pickers, calls in
flight, waiting picks) denotes an existing slot, and slots exist only after configuration.
-/
import GcpVerif.Proofs.PoolTables
namespace GcpVerif.Pool

theorem mem_filter_or {α : Type} {p : α → Prop} {f : α → Bool} {l : List α} : ∀ x ∈ l.filter f, x ∈ l ∨ p x :=
  fun _ hx => Or.inl (List.mem_filter.mp hx).1

theorem mem_snoc_or {α : Type} {p : α → Prop} {l : List α} {a : α} (ha : p a) : ∀ x ∈ l ++ [a], x ∈ l ∨ p x :=
  fun _ hx => (List.mem_append.mp hx).imp_right fun h => by rw [List.mem_singleton.mp h]; exact ha

def okSlot (s : St) (slot : Slot) : Prop := slot < s.refs.length

/-- a picker that can be used: it was built from a configured, non-empty pool and lists existing slots -/
def okPicker (s : St) : Picker → Prop
  | .gcp l => s.refs.length ≠ 0 ∧ ∀ slot ∈ l, okSlot s slot
  | _ => True

structure Valid (s : St) : Prop where
  cfgNone : s.cfg = none → s.refs.length = 0
  refOf : ∀ sc slot, lookup s.scRefs sc = some slot → okSlot s slot
  pubOk : ∀ q ∈ s.published, okPicker s q.2
  pickerOk : okPicker s s.picker
  callsOk : ∀ c ∈ s.calls, okSlot s c.slot
  waitOk : ∀ w ∈ s.waiters, okSlot s w.slot

/-- what one stage may do: everything it stores is inherited or valid afterwards -/
structure Step (s s' : St) : Prop where
  len : s.refs.length ≤ s'.refs.length
  cfg : s'.cfg = s.cfg
  grow : s'.refs.length = s.refs.length ∨ s.cfg ≠ none
  refOf : ∀ sc slot, lookup s'.scRefs sc = some slot → lookup s.scRefs sc = some slot ∨ okSlot s' slot
  pub : ∀ q ∈ s'.published, q ∈ s.published ∨ okPicker s' q.2
  picker : s'.picker = s.picker ∨ okPicker s' s'.picker
  calls : ∀ c ∈ s'.calls, c ∈ s.calls ∨ okSlot s' c.slot
  waits : ∀ w ∈ s'.waiters, w ∈ s.waiters ∨ okSlot s' w.slot

theorem okSlot_mono {s s' : St} (h : s.refs.length ≤ s'.refs.length) {slot : Slot} (hs : okSlot s slot) : okSlot s' slot :=
  Nat.lt_of_lt_of_le hs h

theorem okPicker_mono {s s' : St} (h : s.refs.length ≤ s'.refs.length) {p : Picker} (hp : okPicker s p) : okPicker s' p := by
  cases p with
  | gcp l => exact ⟨fun h0 => hp.1 (Nat.eq_zero_of_le_zero (h0 ▸ h)), fun slot hm => okSlot_mono h (hp.2 slot hm)⟩
  | errTF => trivial
  | errNoSc => trivial

theorem valid_of_step {s s' : St} (h : Valid s) (st : Step s s') : Valid s' := by
  refine ⟨fun hc => ?_, fun sc slot hl => ?_, fun q hq => ?_, ?_, fun c hc => ?_, fun w hw => ?_⟩
  · exact st.grow.elim (fun g => g ▸ h.cfgNone (st.cfg ▸ hc)) fun g => absurd (st.cfg ▸ hc) g
  · exact (st.refOf sc slot hl).elim (fun h' => okSlot_mono st.len (h.refOf sc slot h')) id
  · exact (st.pub q hq).elim (fun h' => okPicker_mono st.len (h.pubOk q h')) id
  · exact st.picker.elim (fun h' => h' ▸ okPicker_mono st.len h.pickerOk) id
  · exact (st.calls c hc).elim (fun h' => okSlot_mono st.len (h.callsOk c h')) id
  · exact (st.waits w hw).elim (fun h' => okSlot_mono st.len (h.waitOk w h')) id

theorem getRef_some_ok {s : St} {slot : Slot} {r : RefSt} (h : getRef s slot = some r) : okSlot s slot :=
  (List.getElem?_eq_some_iff.mp h).1

theorem getRef_of_ok {s : St} {slot : Slot} (h : okSlot s slot) : ∃ r, getRef s slot = some r :=
  ⟨s.refs[slot], List.getElem?_eq_getElem h⟩

theorem valid_frame {s : St} (h : Valid s) {refs : List RefSt} {calls : List Call} {waiters : List Waiter}
    (hlen : refs.length = s.refs.length) (hc : ∀ c ∈ calls, c ∈ s.calls ∨ okSlot s c.slot)
    (hw : ∀ w ∈ waiters, w ∈ s.waiters ∨ okSlot s w.slot)
    {cfgIn addrs nReady nConn nTF aggr affinity fallback scStates rr refreshingMap nextSc failN scAddrs removed now held} :
    Valid { s with cfgIn, addrs, nReady, nConn, nTF, aggr, affinity, fallback, scStates, rr, refreshingMap, nextSc, failN,
                   scAddrs, removed, now, held, refs, calls, waiters } :=
  have ok : ∀ {slot}, slot < s.refs.length → slot < refs.length := fun h => Nat.lt_of_lt_of_eq h hlen.symm
  ⟨fun hn => hlen.trans (h.cfgNone hn), fun sc slot hl => ok (h.refOf sc slot hl),
    fun q hq => okPicker_mono (Nat.le_of_eq hlen.symm) (h.pubOk q hq), okPicker_mono (Nat.le_of_eq hlen.symm) h.pickerOk,
    fun c hm => (hc c hm).elim (fun hm => ok (h.callsOk c hm)) ok, fun w hm => (hw w hm).elim (fun hm => ok (h.waitOk w hm)) ok⟩

theorem step_addConn {s : St} {c : Cfg} (hc : s.cfg = some c) : Step s s.addConn := by
  have hlen : s.addConn.refs.length = s.refs.length + 1 := List.length_append
  refine ⟨hlen ▸ Nat.le_succ _, rfl, Or.inr (hc ▸ nofun), fun x slot hl => ?_, fun _ h => Or.inl h, Or.inl rfl,
    fun _ h => Or.inl h, fun _ h => Or.inl h⟩
  rw [lookup_addConn_scRefs] at hl
  split at hl
  · cases hl; exact Or.inr (Nat.lt_of_lt_of_eq (Nat.lt_succ_self _) hlen.symm)
  · exact Or.inl hl

theorem step_swapped {s : St} {slot : Slot} {r : RefSt} (hg : getRef s slot = some r) (sc old : Sc) :
    Step s (s.swapped sc slot old) := by
  have hlen : (s.swapped sc slot old).refs.length = s.refs.length := List.length_modify ..
  refine ⟨Nat.le_of_eq hlen.symm, rfl, Or.inl hlen, fun x sl hl => ?_, fun _ h => Or.inl h, Or.inl rfl,
    fun _ h => Or.inl h, fun _ h => Or.inl h⟩
  simp only [St.swapped, lookup_insert] at hl
  split at hl
  · cases hl; exact Or.inr (Nat.lt_of_lt_of_eq (getRef_some_ok hg) hlen.symm)
  · exact Or.inl ((lookup_erase_eq_some.mp hl).2)

theorem step_recorded (s : St) (sc : Sc) (oldS st : CState) : Step s (s.recorded sc oldS st) :=
  ⟨Nat.le_refl _, rfl, Or.inl rfl, fun _ _ hl => Or.inl (lookup_recorded_scRefs hl), fun _ h => Or.inl h, Or.inl rfl,
    fun _ h => Or.inl h, fun _ h => Or.inl h⟩

theorem regenerate_ok {s : St} (hr : ∀ sc slot, lookup s.scRefs sc = some slot → okSlot s slot) (hne : s.refs.length ≠ 0)
    (order : List Slot) : okPicker s (regeneratePicker s order).picker := by
  rcases regeneratePicker_picker s order with ⟨_, e⟩ | ⟨_, l, e, hp⟩ <;> rw [e]
  · trivial
  · refine ⟨hne, fun slot hm => ?_⟩
    have ⟨p, _, hp⟩ := List.mem_filterMap.mp (hp.mem_iff.mp hm)
    exact hr p.1 slot hp

theorem step_republished {s : St} (hr : ∀ sc slot, lookup s.scRefs sc = some slot → okSlot s slot)
    (hne : s.refs.length ≠ 0) (order : List Slot) : Step s (s.republished order) := by
  have hp : okPicker s (regeneratePicker s order).picker := regenerate_ok hr hne order
  unfold St.republished
  exact ⟨Nat.le_refl _, rfl, Or.inl rfl, fun _ _ hl => Or.inl hl, mem_snoc_or hp, Or.inr hp,
    fun _ h => Or.inl h, fun _ h => Or.inl h⟩

theorem valid_stage {s0 s s' : St} {op : Op} (st : Stage s0 op s s') (t : Tables s) (h : Valid s) : Valid s' := by
  cases st with
  | setCfg v hc => exact ⟨fun hx => (by cases hx), h.refOf, h.pubOk, h.pickerOk, h.callsOk, h.waitOk⟩
  | addConn c hc => exact valid_of_step h (step_addConn hc)
  | addWaiter w hf hw => exact valid_frame h rfl (fun _ => Or.inl) (mem_snoc_or hw)
  | place c r hg => exact valid_frame h (List.length_modify ..) (mem_snoc_or (getRef_some_ok hg)) (fun _ => Or.inl)
  | ctxDone w r _ hg | wake w r hg =>
    exact valid_frame h (List.length_modify ..) (mem_snoc_or (getRef_some_ok hg)) mem_filter_or
  | dropWaiter w => exact valid_frame h rfl (fun _ => Or.inl) mem_filter_or
  | completeCall call => exact valid_frame h (List.length_modify ..) mem_filter_or (fun _ => Or.inl)
  | detReset | deInc | startRefresh => exact valid_frame h (List.length_modify ..) (fun _ => Or.inl) (fun _ => Or.inl)
  | bindAll call reply keys r =>
    exact valid_frame h (length_of_map (bindAll_refs_map (fun _ => ()) (fun _ _ => rfl) r.subConn keys _)) (fun _ => Or.inl)
      (fun _ => Or.inl)
  | unbind call reply =>
    exact valid_frame h (length_of_map (unbind_refs_map (fun _ => ()) (fun _ _ => rfl) _ call.boundKey)) (fun _ => Or.inl)
      (fun _ => Or.inl)
  | swap sc order slot r hl hg => exact valid_of_step h (step_swapped hg sc r.subConn)
  | record sc st order oldS => exact valid_of_step h (step_recorded _ sc oldS st)
  | publish sc st order oldS hst =>
    have v1 := valid_of_step h (step_recorded _ sc oldS st)
    -- the reported connection has a slot, so the pool is not empty
    have ⟨slot, hl⟩ := exists_lookup_of_mem_keys ((t.keysEq sc).mp (mem_keys_of_lookup hst))
    exact valid_of_step v1 (step_republished v1.refOf (Nat.ne_of_gt (Nat.zero_lt_of_lt (h.refOf sc slot hl))) order)
  | _ => exact valid_frame h rfl (fun _ => Or.inl) (fun _ => Or.inl)

theorem valid_init (ci : CfgInput) : Valid (init ci) :=
  ⟨fun _ => rfl, fun _ _ h => (by cases h), fun _ hq => (by cases hq), trivial, fun _ hq => (by cases hq), fun _ hq => (by cases hq)⟩

theorem valid_run (ci : CfgInput) (ops : List Op) : Valid (run (init ci) ops) :=
  run_with_tables valid_init valid_stage ci ops

/-! ### the events

`PANIC` is emitted at five places: by a pick or a completion without a configuration, by `finishPick`
and `opCtxDone` when the slot to place the call on does not exist, and by `pickRR` on an empty pool.
Every other event of the model is visibly another one. -/

def noPanic (ev : List Event) : Prop := Event.res "PANIC" ∉ ev

theorem noPanic_nil : noPanic [] := List.not_mem_nil

theorem noPanic_append {a b : List Event} (ha : noPanic a) (hb : noPanic b) : noPanic (a ++ b) :=
  fun h => (List.mem_append.mp h).elim ha hb

theorem noPanic_ite {c : Prop} [Decidable c] {a b : St × List Event} (ha : c → noPanic a.2) (hb : ¬c → noPanic b.2) :
    noPanic (if c then a else b).2 := by
  split
  · exact ha ‹_›
  · exact hb ‹_›

theorem noPanic_ccNew (s : St) : noPanic (ccNewSubConn s).2.2 := by
  by_cases ha : s.addrs = 0
  · rw [ccNewSubConn_noaddrs ha]; simp [noPanic]
  · by_cases hf : 0 < s.failN
    · rw [ccNewSubConn_fail ha hf]; simp [noPanic]
    · rw [ccNewSubConn_ok ha (by omega)]; simp [noPanic]

theorem noPanic_addSubConn (s : St) : noPanic (addSubConn s).2.2 := by
  rcases addSubConn_cases s with e | ⟨_, e⟩ | ⟨_, _, e⟩ <;> rw [e] <;> simp [noPanic]

theorem noPanic_newSubConn (s : St) : noPanic (newSubConn s).2 :=
  noPanic_ite (fun _ => noPanic_nil) fun _ => noPanic_addSubConn s

theorem noPanic_enforce (min fuel : Nat) (s : St) : noPanic (enforceMinSize s min fuel).2 := by
  refine enforce_induct (R := fun _ r => noPanic r.2) (fun _ => noPanic_nil) (fun s _ _ _ e => ?_)
    (fun s _ _ _ _ e ih => ?_) fuel s
  all_goals have h1 := noPanic_addSubConn s; rw [e] at h1
  · exact h1
  · exact noPanic_append h1 ih

theorem noPanic_refresh (s : St) (slot : Slot) : noPanic (refresh s slot).2 := by
  unfold refresh
  split
  · exact noPanic_nil
  · refine noPanic_ite (fun _ => noPanic_nil) fun _ => ?_
    have h := noPanic_ccNew (modRef s slot fun r => { r with refreshing := true })
    dsimp only
    generalize ccNewSubConn _ = r at h ⊢
    obtain ⟨s1, o, ev⟩ := r
    cases o with
    | none => exact h
    | some sc => exact noPanic_append h (by simp [noPanic])

theorem noPanic_swap (s : St) (sc : Sc) (slot : Slot) : noPanic (swap s sc slot).2 := by
  cases hg : getRef s slot with
  | none => rw [swap_none hg]; exact noPanic_nil
  | some r => rw [swap_some hg]; simp [noPanic]

theorem noPanic_updateAll (s : St) (scs : List Sc) : noPanic (updateAll s scs).2 :=
  List.foldlRecOn (motive := fun acc : St × List Event => noPanic acc.2) scs _ noPanic_nil
    fun _ h _ _ => noPanic_append h (by simp [noPanic])

theorem noPanic_wake (s : St) : noPanic (wakeWaiters s).2 := by
  refine List.foldlRecOn (motive := fun acc : St × List Event => noPanic acc.2) s.waiters _ noPanic_nil
    fun acc h w _ => noPanic_ite (fun _ => ?_) fun _ => h
  split
  · exact noPanic_append h (by simp [noPanic])
  · exact h

theorem noPanic_opCcs (s : St) (ver : Nat) : noPanic (opCcs s ver).2 := by
  have h0 : ∀ s : St, noPanic (ccsConfigure s).2 := fun s => by
    unfold ccsConfigure; split
    · exact noPanic_nil
    · exact noPanic_enforce _ _ _
  have ok : noPanic [Event.res "ok"] := by simp [noPanic]
  unfold opCcs
  exact noPanic_ite
    (fun _ => noPanic_append (noPanic_append (noPanic_append (h0 _) (noPanic_updateAll _ _)) (noPanic_enforce _ _ _)) ok)
    fun _ => noPanic_append (noPanic_append (h0 _) (noPanic_updateAll _ _)) ok

theorem noPanic_opScs (s : St) (sc : Sc) (st : CState) (order : List Slot) : noPanic (opScs s sc st order).2 := by
  have ok : noPanic [Event.res "ok"] := by simp [noPanic]
  unfold opScs
  cases hp : scsPrologue s sc st with
  | none => exact noPanic_append (by split <;> simp [noPanic]) ok
  | some p =>
    have h0 : noPanic p.2 := by
      unfold scsPrologue at hp
      split at hp
      · split at hp
        · cases hp
        · cases hp; exact noPanic_swap _ _ _
      · cases hp; exact noPanic_nil
    obtain ⟨s1, ev0⟩ := p
    simp only
    split
    · exact noPanic_append h0 ok
    · refine noPanic_append (noPanic_append (noPanic_append h0 ?_) (noPanic_ite (fun _ => ?_) fun _ => noPanic_nil)) ok
      · unfold recordState; cases st <;> simp [noPanic]
      · simp [noPanic]

theorem noPanic_finishPick {s : St} {r : Option Slot} {ev : List Event} (hev : noPanic ev)
    (hr : ∀ slot, r = some slot → okSlot s slot) (call : Nat) (cmd : Cmd) (loc : Loc) (key : String) (ctx : CtxKind)
    (dl : Option Int) : noPanic (finishPick s r ev call cmd loc key ctx dl).2 := by
  unfold finishPick
  cases r with
  | none => exact noPanic_append hev (by simp [noPanic])
  | some slot =>
    obtain ⟨x, hg⟩ := getRef_of_ok (hr slot rfl)
    simp only [place_some hg]
    exact noPanic_append hev (by simp [noPanic])

theorem getLeastBusy_ok {s : St} (c : Cfg) {l : List Slot} (hl : ∀ x ∈ l, okSlot s x) :
    (∀ slot, (getLeastBusy s c l).2.1 = some slot → okSlot (getLeastBusy s c l).1 slot) ∧
    noPanic (getLeastBusy s c l).2.2 := by
  rcases getLeastBusy_cases s c l with e | ⟨_, _, _, _, e⟩ <;> rw [e]
  · exact ⟨fun _ hr => hl _ (leastBusy_spec hr).1, noPanic_nil⟩
  · exact ⟨fun _ hr => (nomatch hr), noPanic_newSubConn s⟩

theorem chooseSlot_ok {s : St} (h : Valid s) (c : Cfg) {l : List Slot} (hl : ∀ x ∈ l, okSlot s x) (key : String) :
    (∀ slot, (chooseSlot s c l key).2.1 = some slot → okSlot (chooseSlot s c l key).1 slot) ∧
    noPanic (chooseSlot s c l key).2.2 := by
  unfold chooseSlot
  split
  · rcases getReadySubConnRef_cases s c key with ⟨o, b, e, ho⟩ | ⟨sc, l', sl, r, _, _, _, _, _, _, hg, e⟩
    · rw [e]
      cases b with
      | false => exact getLeastBusy_ok c hl
      | true =>
        refine ⟨fun slot hr => ?_, noPanic_nil⟩
        rcases ho with rfl | ⟨sc, rfl⟩
        · cases hr
        · exact h.refOf _ _ hr
    · rw [e]
      exact ⟨fun slot hr => Option.some.inj hr ▸ getRef_some_ok hg, noPanic_nil⟩
  · exact getLeastBusy_ok c hl

theorem noPanic_pickRR {s : St} (hne : s.refs.length ≠ 0) (call : Nat) (loc : Loc) (ctx : CtxKind) (dl : Option Int) :
    noPanic (pickRR s call loc ctx dl).2 := by
  refine noPanic_ite (fun he => absurd (by simpa using he) hne) fun _ => noPanic_ite (fun _ => ?_) fun _ => by simp [noPanic]
  exact noPanic_finishPick noPanic_nil (fun slot hs => by cases hs; exact Nat.mod_lt _ (Nat.pos_of_ne_zero hne)) _ _ _ _ _ _

theorem noPanic_opPick {s : St} (h : Valid s) (call pn : Nat) (m : String) (ctx : CtxKind) (dl : Option Int)
    (req : Req) : noPanic (opPick s call pn m ctx dl req).2 := by
  unfold opPick
  refine noPanic_ite (fun _ => by simp [noPanic]) fun _ => ?_
  split
  · simp [noPanic]
  · simp [noPanic]
  · simp [noPanic]
  · rename_i l hpub
    have hpk := h.pubOk _ (List.mem_of_getElem? hpub)
    split
    · rename_i hc; exact absurd (h.cfgNone hc) hpk.1
    · rename_i c hc
      refine noPanic_ite (fun _ => by simp [noPanic]) fun _ => ?_
      split
      · simp [noPanic]
      · rename_i cmd loc key _
        refine noPanic_ite (fun _ => noPanic_pickRR hpk.1 call loc ctx dl) fun _ => ?_
        have h2 := chooseSlot_ok h c hpk.2 key
        exact noPanic_finishPick h2.2 h2.1 _ _ _ _ _ _

theorem noPanic_detect (s : St) (c : Cfg) (call : Call) (err : ErrKind) : noPanic (detectUnresponsive s c call err).2 := by
  rcases detect_cases s c call err with e | e | e | e <;> rw [e]
  · exact noPanic_nil
  · exact noPanic_nil
  · exact noPanic_nil
  · exact noPanic_refresh _ _

theorem noPanic_opDone {s : St} (h : Valid s) (id : Nat) (err : ErrKind) (reply : Msg) :
    noPanic (opDone s id err reply).2 := by
  unfold opDone
  split
  · simp [noPanic]
  · rename_i call hf
    split
    · -- a call in flight is on an existing slot, and slots exist only after configuration
      rename_i hc
      have := h.callsOk call (List.mem_of_find?_eq_some hf)
      rw [okSlot, h.cfgNone hc] at this
      exact absurd this (Nat.not_lt_zero _)
    · rename_i c _
      have := noPanic_append (noPanic_detect (completeCall s call) c call err) (by simp [noPanic] : noPanic [Event.res "ok"])
      exact noPanic_ite (fun _ => this) fun _ => this

theorem noPanic_opCtxDone {s : St} (h : Valid s) (id : Nat) : noPanic (opCtxDone s id).2 := by
  unfold opCtxDone
  split
  · simp [noPanic]
  · rename_i w hf
    obtain ⟨r, hg⟩ := getRef_of_ok (h.waitOk w (List.mem_of_find?_eq_some hf))
    simp only [placeWaiter]
    rw [place_some (by exact hg)]
    simp [noPanic]

theorem noPanic_step {s : St} (h : Valid s) (op : Op) : noPanic (step s op).2 := by
  refine noPanic_append (?_ : noPanic (stepCore s op).2) (noPanic_wake _)
  cases op with
  | ccs ver => exact noPanic_opCcs s ver
  | scs sc st order => exact noPanic_opScs s sc st order
  | pick call pn m ctx dl req => exact noPanic_opPick h call pn m ctx dl req
  | ctxdone call => exact noPanic_opCtxDone h call
  | done call err reply => exact noPanic_opDone h call err reply
  | pickHold call pn m ctx dl req =>
    exact noPanic_ite (fun _ => by simp [noPanic]) fun _ => noPanic_ite (fun _ => by simp [noPanic]) fun _ =>
      noPanic_opPick h call pn m ctx dl req
  | resume call =>
    show noPanic (opResume s call).2
    unfold opResume resumeCore
    split
    · simp [noPanic]
    · split
      · simp [noPanic]
      · exact noPanic_ite (fun _ => noPanic_append (noPanic_newSubConn _) (by simp [noPanic])) fun _ => by simp [noPanic]
  | _ => simp [stepCore, noPanic]

/-- **C05** after every history, no balancer or picker entry point reaches one of the branches on
    which the Go code would panic (nil slot, empty slot list as modulus, missing configuration):
    the model's `PANIC` result never occurs -/
theorem pool_never_panics (ci : CfgInput) (ops : List Op) (op : Op) :
    Event.res "PANIC" ∉ (step (run (init ci) ops) op).2 :=
  noPanic_step (valid_run ci ops) op

/-- every slot number in the slot table, in a call in flight, in a waiting pick and in a published picker
    denotes an existing slot (for the replacement map see `one_replacement_per_slot`) -/
theorem slots_exist (ci : CfgInput) (ops : List Op) :
    (∀ sc slot, lookup (run (init ci) ops).scRefs sc = some slot → slot < (run (init ci) ops).refs.length) ∧
    (∀ c ∈ (run (init ci) ops).calls, c.slot < (run (init ci) ops).refs.length) ∧
    (∀ w ∈ (run (init ci) ops).waiters, w.slot < (run (init ci) ops).refs.length) ∧
    (∀ q ∈ (run (init ci) ops).published, ∀ l, q.2 = .gcp l → ∀ slot ∈ l, slot < (run (init ci) ops).refs.length) := by
  have h := valid_run ci ops
  refine ⟨h.refOf, h.callsOk, h.waitOk, fun q hq l hl slot hm => ?_⟩
  have := h.pubOk q hq
  rw [hl] at this
  exact this.2 slot hm

end GcpVerif.Pool
