/-
C15, F34 — a MultiEndpoint that an accepted UpdateMultiEndpoints creates (no recovery timeout, any
switching delay) routes, when the call returns, to the first endpoint of its list whose pool is READY:
the status report tells it about its endpoints in list order (`tellOwn`), so the first available one it
hears of is the best one and no delayed switch is ever needed.
-/
import GcpVerif.Proofs.METell
import GcpVerif.Proofs.GME3
namespace GcpVerif.GME
open GcpVerif

theorem idxOf_eraseDups_lt {done rest : List String} {e y : String} (hy : y ∈ done) (he : e ∉ done) :
    (done ++ e :: rest).eraseDups.idxOf y < (done ++ e :: rest).eraseDups.idxOf e := by
  -- `y` is found among the first occurrences of `done`, `e` only behind them
  rw [List.eraseDups_append, List.idxOf_append, List.idxOf_append, if_pos (List.mem_eraseDups.mpr hy),
    if_neg (mt List.mem_eraseDups.mp he)]
  exact Nat.lt_of_lt_of_le (List.idxOf_lt_length_iff.mpr (List.mem_eraseDups.mpr hy)) (Nat.le_add_left _ _)

/-- the invariant of telling a fresh MultiEndpoint about the prefix `done` of its list; `L`: the first occurrences
    of the list's names, whose positions are the priorities -/
structure Pre (r : String → Bool) (L : List String) (done : List String) (me : ME.St) : Prop where
  reach : ME.Reach me
  told : ME.Told me
  avail : ∀ ep ∈ me.eps, (ep.status = .available ↔ ep.id ∈ done ∧ r ep.id = true)
  prio : ∀ ep ∈ me.eps, L.idxOf ep.id = ep.prio

theorem told_snoc {r : String → Bool} {done : List String} {e a : String} (h : a ≠ e ∨ r e = false) :
    (a ∈ done ++ [e] ∧ r a = true) ↔ (a ∈ done ∧ r a = true) := by
  rw [List.mem_append, List.mem_singleton]
  refine ⟨fun ⟨h1, h2⟩ => ⟨h1.resolve_right fun hae => ?_, h2⟩, fun ⟨h1, h2⟩ => ⟨.inl h1, h2⟩⟩
  rcases h with h | h
  · exact h hae
  · rw [hae, h] at h2; cases h2

theorem pre_step {r : String → Bool} {L done : List String} {e : String} {me : ME.St}
    (hL : e ∉ done → ∀ y ∈ done, L.idxOf y < L.idxOf e) (h : Pre r L done me) :
    Pre r L (done ++ [e]) (ME.opSetAvail me e (r e)) := by
  have hi := ME.reach_inv h.reach
  -- where the report changes nothing: `e` has no entry, or is told "not ready" and is not available
  have same : (∀ ep ∈ me.eps, ep.id ≠ e ∨ r e = false) → Pre r L (done ++ [e]) me :=
    fun hne => ⟨h.reach, h.told, fun ep hep => (h.avail ep hep).trans (told_snoc (hne ep hep)).symm, h.prio⟩
  cases hf : ME.findEp me.eps e with
  | none =>
    rw [ME.tell_unknown hi h.told e (r e) hf]
    exact same fun ep hep => .inl (ME.findEp_none.mp hf ep hep)
  | some x =>
    obtain ⟨hxm, hxid⟩ := ME.findEp_some hf
    cases hre : r e with
    | false =>
      -- the endpoint cannot be available: it would have been told "available" before
      have hna : ∀ x', ME.findEp me.eps e = some x' → x'.status ≠ .available := by
        intro x' hx' ha
        obtain ⟨hm, hid⟩ := ME.findEp_some hx'
        have := ((h.avail x' hm).mp ha).2
        rw [hid, hre] at this; cases this
      rw [ME.tell_false_noop hi h.told e hna]
      exact same fun _ _ => .inr hre
    | true =>
      -- no endpoint that is available already is outranked by this one
      have hrank : ∀ t, ME.topAvail me.eps = some t → t.prio ≤ x.prio := by
        intro t ht
        obtain ⟨htm, hta⟩ := ME.topAvail_mem ht
        by_cases hed : e ∈ done
        · -- told before, with the same answer: it is available, and the top one does not rank below it
          have hxa : x.status = .available := (h.avail x hxm).mpr ⟨hxid ▸ hed, by rw [hxid]; exact hre⟩
          exact ME.topAvail_min ht x hxm hxa
        · have htd : t.id ∈ done := ((h.avail t htm).mp hta).1
          have := hL hed t.id htd
          rw [h.prio t htm, ← hxid, h.prio x hxm] at this
          exact Nat.le_of_lt this
      obtain ⟨htold, hstat⟩ := ME.tell_true h.reach h.told e x hf hrank
      refine ⟨ME.reach_opSetAvail e true h.reach, htold, fun ep hep => ?_, fun ep hep => ?_⟩
      · obtain ⟨z, hz, hzid, -, h1, h2⟩ := hstat ep hep
        rw [hzid]
        by_cases hze : z.id = e
        · rw [h1 hze, hze]
          exact iff_of_true rfl ⟨List.mem_append_right _ (List.mem_singleton_self e), hre⟩
        · rw [h2 hze, h.avail z hz]
          exact (told_snoc (.inl hze)).symm
      · obtain ⟨z, hz, hzid, hzp, -, -⟩ := hstat ep hep
        rw [hzid, hzp]; exact h.prio z hz

theorem pre_fold {r : String → Bool} {l : List String} {me : ME.St} (h : Pre r l.eraseDups [] me) :
    Pre r l.eraseDups l (tellOwn r l me) :=
  tellOwn_ind (P := Pre r l.eraseDups) r l
    (fun _ _ _ _ hl hm => pre_step (fun he y hy => hl ▸ idxOf_eraseDups_lt hy he) hm) h

theorem pre_init {r : String → Bool} {d : Int} {l : List String} {me0 : ME.St} (h0 : ME.init 0 d l = some me0) :
    Pre r l.eraseDups [] me0 := by
  have hapi : ME.ReachApi me0 l := ME.ReachApi.init h0
  have hreach := hapi.reach
  -- `ME.init 0 d l` is `ME.initRaw (max 0 0) (max d 0) l.eraseDups` by definition
  have hna : ∀ e ∈ me0.eps, e.status ≠ .available := ME.init_not_available h0
  have hr0 : me0.r = 0 := (ME.init_fields h0).1
  refine ⟨hreach, ⟨hr0, ?_, ?_⟩, ?_, ?_⟩
  · intro e he
    rw [ME.init_status h0 e he]
    simp
  · intro t ht
    exact absurd (ME.topAvail_mem ht).2 (hna t (ME.topAvail_mem ht).1)
  · intro ep hep
    constructor
    · intro ha; exact absurd ha (hna ep hep)
    · intro ⟨hm, _⟩; cases hm
  · exact (ME.api_list_and_priorities hapi).2.2

/-- **C15 (F34)** a MultiEndpoint created with the list `l` (no recovery timeout, any switching delay `d`)
    and then told about its endpoints in list order — what an accepted UpdateMultiEndpoints does with a
    new MultiEndpoint — has as its current endpoint the top-priority available one; its endpoints are
    available exactly where the pool is READY; so `Current()` is the first endpoint of the list whose
    pool is READY (no READY endpoint of the list precedes it in the list of first occurrences) -/
theorem new_multiendpoint_routes_to_top_ready {r : String → Bool} {d : Int} {l : List String} {me0 : ME.St}
    (h0 : ME.init 0 d l = some me0) :
    let me := tellOwn r l me0
    (∀ ep ∈ me.eps, (ep.status = .available ↔ r ep.id = true)) ∧
    ∀ t, ME.topAvail me.eps = some t →
      me.current = t.id ∧ r t.id = true ∧
      ∀ e ∈ l, r e = true → l.eraseDups.idxOf t.id ≤ l.eraseDups.idxOf e := by
  have hfold := pre_fold (r := r) (pre_init h0)
  -- the reports keep identities: the table still holds exactly the names of `l`
  have hids : ∀ id, id ∈ ME.ids (tellOwn r l me0).eps ↔ id ∈ l := by
    rw [ME.ids_eq_vw, tellOwn_vw, ← ME.ids_eq_vw]
    exact (ME.api_list_and_priorities (ME.ReachApi.init h0)).2.1
  refine ⟨fun ep hep => ?_, fun t ht => ?_⟩
  · rw [hfold.avail ep hep]
    exact ⟨fun h => h.2, fun h => ⟨(hids ep.id).mp (List.mem_map_of_mem hep), h⟩⟩
  · obtain ⟨htm, hta⟩ := ME.topAvail_mem ht
    refine ⟨hfold.told.top t ht, ((hfold.avail t htm).mp hta).2, fun e hel hre => ?_⟩
    -- e has an entry, which is available, so t does not rank below it
    obtain ⟨x, hx, hxe⟩ := List.mem_map.mp ((hids e).mpr hel)
    have hxa : x.status = .available := (hfold.avail x hx).mpr ⟨by rw [hxe]; exact hel, by rw [hxe]; exact hre⟩
    have := ME.topAvail_min ht x hx hxa
    rw [← hfold.prio t htm, ← hfold.prio x hx, hxe] at this
    exact this

theorem update_creates_told {s : St} (d : String) (o : Opts) (f : List String) (r : String → Bool) (dl : Int)
    (hok : (update s d o f r dl).2 = true) {name : String} {l : List String}
    (hnew : findME s name = none) (hmem : (name, some l) ∈ o) :
    ∃ me0, ME.init 0 dl l = some me0 ∧ (name, tellOwn r l me0) ∈ (update s d o f r dl).1.mes := by
  obtain ⟨heq, -, hall⟩ := update_accepted hok
  obtain ⟨l', hl', hne⟩ := hall _ hmem
  cases hl'
  obtain ⟨me0, hin⟩ := Option.isSome_iff_exists.mp (ME.api_init_isSome 0 dl hne)
  refine ⟨me0, hin, ?_⟩
  rw [heq]
  exact List.mem_filterMap.mpr ⟨_, hmem, by simp [configure, hnew, hin]⟩

/-- **C15 (F34)** when an accepted UpdateMultiEndpoints returns, a MultiEndpoint it created (a new name;
    any switching delay) routes to the first endpoint of its list whose pool was READY in the status
    report: its current endpoint is available, is the top-priority available one, and no endpoint of the
    list with a READY pool precedes it -/
theorem update_new_multiendpoint_routes_to_top_ready {s : St} (d : String) (o : Opts) (f : List String)
    (r : String → Bool) (dl : Int) (hok : (update s d o f r dl).2 = true) {name : String} {l : List String}
    (hnew : findME s name = none) (hmem : (name, some l) ∈ o) :
    ∃ me, (name, me) ∈ (update s d o f r dl).1.mes ∧
      ∀ t, ME.topAvail me.eps = some t →
        me.current = t.id ∧ r t.id = true ∧ ∀ e ∈ l, r e = true → l.eraseDups.idxOf t.id ≤ l.eraseDups.idxOf e := by
  obtain ⟨me0, h0, hm⟩ := update_creates_told d o f r dl hok hnew hmem
  exact ⟨_, hm, (new_multiendpoint_routes_to_top_ready (r := r) h0).2⟩

-- premises satisfiable and the rule visible: three READY pools, a new MultiEndpoint [b, c, a] with a switching delay
example : ∃ me0, ME.init 0 3600 ["b", "c", "a"] = some me0 ∧ (tellOwn (fun _ => true) ["b", "c", "a"] me0).current = "b" :=
  ⟨_, rfl, by decide⟩

-- … and with the first pool down: the second endpoint of the list
example : ∃ me0, ME.init 0 3600 ["b", "c", "a"] = some me0 ∧ (tellOwn (fun e => e != "b") ["b", "c", "a"] me0).current = "c" :=
  ⟨_, rfl, by decide⟩

end GcpVerif.GME
