/-
Timer bookkeeping of the MultiEndpoint model (M6 of DESIGN §5, row C14), for C14.4 (a report of
availability cancels the recovery window) and C14.7 (convergence once all timers have fired).

`TInv`: timer ids are unique and fresh; every endpoint object owns at most its own timer id; a
recovering endpoint of the list has its own live recovery timer (so the window really ends), and
an endpoint that is not recovering has no live timer of its own.

Every operation is a sequence of a few moves, and `TInv` is shown once per move: the objects stay
where they are and keep number, id and timer (`tinv_of_objs`: `setState`, removing a timer, a new
priority), a timer nobody owns yet is allocated (`tinv_addTimer`), one map entry is new or is given such a
timer (`tinv_put`: `newEndpoint`, `scheduleUnavailable`), entries leave the map (`tinv_moveOut`).
-/
import GcpVerif.Proofs.MEStep
namespace GcpVerif.ME

def U (s : St) : List Ep := s.eps ++ s.orphans

/-- `ex`: the id of an endpoint whose timer has just been taken away and whose status is about to
    change (inside one operation); `none` for the invariant between operations -/
structure TInv (s : St) (ex : Option String) : Prop where
  tidLt : ∀ t ∈ s.timers, t.tid < s.nextTid
  tidInj : ∀ t ∈ s.timers, ∀ t' ∈ s.timers, t.tid = t'.tid → t = t'
  ownLt : ∀ x ∈ U s, ∀ tid, x.timer = some tid → tid < s.nextTid
  own : ∀ x ∈ U s, ∀ y ∈ U s, ∀ tid, x.timer = some tid → y.timer = some tid → x.obj = y.obj
  objLt : ∀ x ∈ U s, x.obj < s.nextObj
  objId : ∀ a ∈ s.eps, ∀ b ∈ s.eps, a.obj = b.obj → a.id = b.id
  objDisj : ∀ a ∈ s.eps, ∀ b ∈ s.orphans, a.obj ≠ b.obj
  recov : ∀ x ∈ s.eps, x.status = .recovering → some x.id ≠ ex →
    ∃ t ∈ s.timers, x.timer = some t.tid ∧ t.stopped = false ∧ t.kind = .recovery x.obj x.id x.lastChange
  quiet : ∀ x ∈ s.eps, x.status ≠ .recovering → ∀ t ∈ s.timers, x.timer = some t.tid → t.stopped = true
  tidNd : (s.timers.map (·.tid)).Nodup

theorem stopTimer_elem {now : Int} {tid : Nat} {t t' : Timer} :
    (if t.tid == tid then (if t.due ≤ now then some { t with stopped := true } else none) else some t) = some t' ↔
      (t.tid = tid ∧ t.due ≤ now ∧ t' = { t with stopped := true }) ∨ (t.tid ≠ tid ∧ t' = t) := by
  by_cases h1 : t.tid = tid
  · by_cases h2 : t.due ≤ now <;> simp [h1, h2, @eq_comm _ t']
  · simp [h1, @eq_comm _ t']

theorem mem_stopTimer {now : Int} {ts : List Timer} {tid : Nat} {t' : Timer} :
    t' ∈ stopTimer now ts tid ↔
      ∃ t ∈ ts, (t.tid = tid ∧ t.due ≤ now ∧ t' = { t with stopped := true }) ∨ (t.tid ≠ tid ∧ t' = t) := by
  simp only [stopTimer, List.mem_filterMap, stopTimer_elem]

theorem mem_stopOpt {now : Int} {ts : List Timer} {o : Option Nat} {t' : Timer} (h : t' ∈ stopOpt now ts o) :
    ∃ t ∈ ts, t'.tid = t.tid ∧ t'.kind = t.kind ∧ t'.due = t.due ∧
      ((t' = t ∧ o ≠ some t.tid) ∨ (o = some t.tid ∧ t'.stopped = true)) := by
  cases o with
  | none => exact ⟨t', h, rfl, rfl, rfl, Or.inl ⟨rfl, by simp⟩⟩
  | some tid =>
    obtain ⟨t, ht, ⟨rfl, -, rfl⟩ | ⟨hne, rfl⟩⟩ := mem_stopTimer.mp h
    · exact ⟨t, ht, rfl, rfl, rfl, Or.inr ⟨rfl, rfl⟩⟩
    · exact ⟨t', ht, rfl, rfl, rfl, Or.inl ⟨rfl, fun heq => hne (Option.some.inj heq).symm⟩⟩

theorem stopOpt_keeps {now : Int} {ts : List Timer} {o : Option Nat} {t : Timer} (ht : t ∈ ts)
    (hne : o ≠ some t.tid) : t ∈ stopOpt now ts o := by
  cases o with
  | none => exact ht
  | some tid =>
    apply mem_stopTimer.mpr
    exact ⟨t, ht, Or.inr ⟨fun h => hne (by rw [h]), rfl⟩⟩

theorem nodup_map_filterMap {α β : Type} {g : α → Option α} {f : α → β} (hg : ∀ a b, g a = some b → f b = f a)
    {l : List α} (h : (l.map f).Nodup) : ((l.filterMap g).map f).Nodup :=
  List.pairwise_map.mpr ((List.pairwise_map.mp h).filterMap g fun a a' hne b hb b' hb' => by
    rw [hg a b hb, hg a' b' hb']; exact hne)

theorem nd_stop {now : Int} {ts : List Timer} {o : Option Nat} (h : (ts.map (·.tid)).Nodup) :
    ((stopOpt now ts o).map (·.tid)).Nodup := by
  cases o with
  | none => exact h
  | some tid =>
    refine nodup_map_filterMap (fun a b hab => ?_) h
    rcases stopTimer_elem.mp hab with ⟨-, -, rfl⟩ | ⟨-, rfl⟩ <;> rfl

theorem nd_append {ts : List Timer} {n : Nat} (h : (ts.map (·.tid)).Nodup) (hlt : ∀ t ∈ ts, t.tid < n) (t' : Timer)
    (ht' : t'.tid = n) : ((ts ++ [t']).map (·.tid)).Nodup := by
  rw [List.map_append, List.nodup_append]
  refine ⟨h, by simp, ?_⟩
  intro a ha b hb
  simp only [List.map_cons, List.map_nil, List.mem_singleton] at hb
  obtain ⟨t, ht, rfl⟩ := List.mem_map.mp ha
  have := hlt t ht
  rw [hb, ht']
  exact Nat.ne_of_lt this

theorem mem_U {s : St} {x : Ep} : x ∈ U s ↔ x ∈ s.eps ∨ x ∈ s.orphans := List.mem_append

theorem tinv_weaken {s : St} {ex : Option String} (h : TInv s none) : TInv s ex :=
  { h with recov := fun x hx hr _ => h.recov x hx hr (by simp) }

theorem tinv_of_objs {s s' : St} {ex ex' : Option String} (h : TInv s ex)
    (hnt : s.nextTid ≤ s'.nextTid) (hno : s.nextObj ≤ s'.nextObj)
    (hE : ∀ y ∈ s'.eps, ∃ x ∈ s.eps, y.obj = x.obj ∧ y.id = x.id ∧ y.timer = x.timer)
    (hO : ∀ y ∈ s'.orphans, ∃ x ∈ s.orphans, y.obj = x.obj ∧ y.timer = x.timer)
    (tidLt : ∀ t ∈ s'.timers, t.tid < s'.nextTid)
    (tidNd : (s'.timers.map (·.tid)).Nodup)
    (recov : ∀ x ∈ s'.eps, x.status = .recovering → some x.id ≠ ex' →
      ∃ t ∈ s'.timers, x.timer = some t.tid ∧ t.stopped = false ∧ t.kind = .recovery x.obj x.id x.lastChange)
    (quiet : ∀ x ∈ s'.eps, x.status ≠ .recovering → ∀ t ∈ s'.timers, x.timer = some t.tid → t.stopped = true) :
    TInv s' ex' := by
  have hU : ∀ y ∈ U s', ∃ x ∈ U s, y.obj = x.obj ∧ y.timer = x.timer := by
    intro y hy
    rcases mem_U.mp hy with hy | hy
    · obtain ⟨x, hx, e1, _, e3⟩ := hE y hy; exact ⟨x, mem_U.mpr (Or.inl hx), e1, e3⟩
    · obtain ⟨x, hx, e⟩ := hO y hy; exact ⟨x, mem_U.mpr (Or.inr hx), e⟩
  refine ⟨tidLt, inj_of_nodup_map _ tidNd, ?_, ?_, ?_, ?_, ?_, recov, quiet, tidNd⟩
  · intro y hy tid hty
    obtain ⟨x, hx, _, e2⟩ := hU y hy
    exact Nat.lt_of_lt_of_le (h.ownLt x hx tid (e2 ▸ hty)) hnt
  · intro y hy z hz tid h1 h2
    obtain ⟨x, hx, e1, e2⟩ := hU y hy
    obtain ⟨w, hw, f1, f2⟩ := hU z hz
    rw [e1, f1]; exact h.own x hx w hw tid (e2 ▸ h1) (f2 ▸ h2)
  · intro y hy
    obtain ⟨x, hx, e1, _⟩ := hU y hy
    rw [e1]; exact Nat.lt_of_lt_of_le (h.objLt x hx) hno
  · intro a ha b hb hab
    obtain ⟨x, hx, e1, e2, _⟩ := hE a ha
    obtain ⟨w, hw, f1, f2, _⟩ := hE b hb
    rw [e2, f2]; exact h.objId x hx w hw (e1 ▸ f1 ▸ hab)
  · intro a ha b hb
    obtain ⟨x, hx, e1, _⟩ := hE a ha
    obtain ⟨w, hw, f1, _⟩ := hO b hb
    rw [e1, f1]; exact h.objDisj x hx w hw

theorem tidLt_stop {now : Int} {ts : List Timer} {o : Option Nat} {n : Nat} (h : ∀ t ∈ ts, t.tid < n) :
    ∀ t ∈ stopOpt now ts o, t.tid < n := fun t' ht' => by
  obtain ⟨t, ht, e, -⟩ := mem_stopOpt ht'; rw [e]; exact h t ht

theorem quiet_stop {s : St} {ex : Option String} (h : TInv s ex) {now : Int} {o : Option Nat} {x : Ep}
    (hx : x ∈ s.eps) (hnr : x.status ≠ .recovering) :
    ∀ t ∈ stopOpt now s.timers o, x.timer = some t.tid → t.stopped = true := fun t' ht' hty => by
  obtain ⟨t, ht, h1, _, _, h4⟩ := mem_stopOpt ht'
  rcases h4 with ⟨heq, _⟩ | ⟨_, hs⟩
  · rw [heq]; exact h.quiet x hx hnr t ht (h1 ▸ hty)
  · exact hs

theorem tinv_setStateEp {s : St} {ex ex' : Option String} (h : TInv s ex)
    (hid : ∀ a ∈ s.eps, ∀ b ∈ s.eps, a.id = b.id → a = b) {e : Ep} (he : e ∈ s.eps)
    (hex : ∀ id, ex = some id → id = e.id) {st : Status} (hst : st = .recovering → ex' = some e.id) :
    TInv (setStateEp s e st) ex' := by
  refine tinv_of_objs h (Nat.le_refl _) (Nat.le_refl _) ?_ (fun y hy => ⟨y, hy, rfl, rfl⟩)
    (tidLt_stop h.tidLt) (nd_stop h.tidNd) ?_ ?_
  · intro y hy
    rcases mem_updId_of_inj hid he hy with rfl | ⟨hy, -⟩
    · exact ⟨e, he, rfl, rfl, rfl⟩
    · exact ⟨y, hy, rfl, rfl, rfl⟩
  · -- recovering endpoints other than `e` keep their live timer
    intro y hy hrec hne
    rcases mem_updId_of_inj hid he hy with rfl | ⟨hy, hye⟩
    · exact absurd (hst hrec).symm hne
    · obtain ⟨t, ht, h1, h2, h3⟩ := h.recov y hy hrec (fun heq => hye (hex y.id heq.symm))
      refine ⟨t, stopOpt_keeps ht fun heq => ?_, h1, h2, h3⟩
      -- `e` would own the same timer as `y`: same object, hence same id
      exact hye (h.objId e he y hy (h.own e (mem_U.mpr (Or.inl he)) y (mem_U.mpr (Or.inl hy)) t.tid heq h1)).symm
  · intro y hy hnr t' ht' hty
    rcases mem_updId_of_inj hid he hy with rfl | ⟨hy, _⟩
    · -- `e` itself: whatever is left of its timer is stopped
      obtain ⟨t, _, h1, _, _, ⟨_, hne⟩ | ⟨_, hs⟩⟩ := mem_stopOpt ht'
      · exact absurd (h1 ▸ hty) hne
      · exact hs
    · exact quiet_stop h hy hnr t' ht' hty

theorem tinv_setStateOrphan {s : St} (h : TInv s none) {o : Ep} (ho : o ∈ s.orphans) (st : Status) :
    TInv (setStateOrphan s o st) none := by
  refine tinv_of_objs h (Nat.le_refl _) (Nat.le_refl _) (fun y hy => ⟨y, hy, rfl, rfl, rfl⟩) ?_
    (tidLt_stop h.tidLt) (nd_stop h.tidNd) ?_ (fun x hx hnr => quiet_stop h hx hnr)
  · intro y hy
    obtain ⟨x, hx, rfl⟩ := List.mem_map.mp hy
    exact ⟨x, hx, by split <;> exact ⟨rfl, rfl⟩⟩
  · intro x hx hrec _
    obtain ⟨t, ht, h1, h2, h3⟩ := h.recov x hx hrec (by simp)
    refine ⟨t, stopOpt_keeps ht fun heq => ?_, h1, h2, h3⟩
    exact h.objDisj x hx o ho (h.own o (mem_U.mpr (Or.inr ho)) x (mem_U.mpr (Or.inl hx)) t.tid heq h1).symm

theorem tinv_remove {s : St} (h : TInv s none) (tid : Nat) (ex : Option String)
    (hno : ∀ x ∈ s.eps, x.status = .recovering → x.timer = some tid → some x.id = ex) :
    TInv (dropTimer s tid) ex := by
  have hsub : ∀ t ∈ removeTimer s.timers tid, t ∈ s.timers := fun t ht => (List.mem_filter.mp ht).1
  refine tinv_of_objs h (Nat.le_refl _) (Nat.le_refl _) (fun y hy => ⟨y, hy, rfl, rfl, rfl⟩)
    (fun y hy => ⟨y, hy, rfl, rfl⟩) (fun t ht => h.tidLt t (hsub t ht)) ((List.filter_sublist.map _).nodup h.tidNd) ?_
    (fun x hx hnr t ht => h.quiet x hx hnr t (hsub t ht))
  intro x hx hrec hne
  obtain ⟨t, ht, h1, h2, h3⟩ := h.recov x hx hrec (by simp)
  refine ⟨t, List.mem_filter.mpr ⟨ht, ?_⟩, h1, h2, h3⟩
  simp only [bne_iff_ne, ne_eq]
  exact fun heq => hne (hno x hx hrec (by rw [h1, heq]))

theorem tinv_prio {s : St} (h : TInv s none) (id : String) (i : Nat) :
    TInv (setPrio s id i) none := by
  have hmemE : ∀ y ∈ (setPrio s id i).eps, ∃ x ∈ s.eps,
      y.obj = x.obj ∧ y.id = x.id ∧ y.timer = x.timer ∧ y.status = x.status ∧ y.lastChange = x.lastChange := by
    intro y hy
    obtain ⟨x, hx, rfl⟩ := List.mem_map.mp hy
    exact ⟨x, hx, by split <;> exact ⟨rfl, rfl, rfl, rfl, rfl⟩⟩
  refine tinv_of_objs h (Nat.le_refl _) (Nat.le_refl _)
    (fun y hy => by obtain ⟨x, hx, e1, e2, e3, _⟩ := hmemE y hy; exact ⟨x, hx, e1, e2, e3⟩)
    (fun y hy => ⟨y, hy, rfl, rfl⟩) h.tidLt h.tidNd ?_ ?_
  · intro y hy hrec _
    obtain ⟨x, hx, e1, e2, e3, e4, e5⟩ := hmemE y hy
    obtain ⟨t, ht, h1, h2, h3⟩ := h.recov x hx (e4 ▸ hrec) (by simp)
    exact ⟨t, ht, e3 ▸ h1, h2, by rw [e1, e2, e5]; exact h3⟩
  · intro y hy hnr t ht hty
    obtain ⟨x, hx, _, _, e3, e4, _⟩ := hmemE y hy
    exact h.quiet x hx (e4 ▸ hnr) t ht (e3 ▸ hty)

theorem tinv_addTimer {s : St} {ex : Option String} (h : TInv s ex) (dl : Int) (k : TimerKind) :
    TInv (addTimer s dl k) ex := by
  have hold : ∀ x ∈ s.eps, ∀ t' ∈ (addTimer s dl k).timers, x.timer = some t'.tid → t' ∈ s.timers := by
    intro x hx t' ht' hty
    rcases List.mem_append.mp ht' with h1 | h1
    · exact h1
    · -- an old endpoint cannot own the fresh id
      rw [List.mem_singleton.mp h1] at hty
      exact absurd (h.ownLt x (mem_U.mpr (Or.inl hx)) s.nextTid hty) (Nat.lt_irrefl _)
  refine tinv_of_objs h (Nat.le_succ _) (Nat.le_refl _) (fun y hy => ⟨y, hy, rfl, rfl, rfl⟩)
    (fun y hy => ⟨y, hy, rfl, rfl⟩) ?_ (nd_append h.tidNd h.tidLt _ rfl) ?_ ?_
  · intro t' ht'
    rcases List.mem_append.mp ht' with h1 | h1
    · exact Nat.lt_succ_of_lt (h.tidLt t' h1)
    · rw [List.mem_singleton.mp h1]; exact Nat.lt_succ_self _
  · intro x hx hrec hne
    obtain ⟨t, ht, h'⟩ := h.recov x hx hrec hne
    exact ⟨t, List.mem_append.mpr (Or.inl ht), h'⟩
  · intro x hx hnr t' ht' hty
    exact h.quiet x hx hnr t' (hold x hx t' ht' hty) hty

theorem tinv_put {s : St} {ex : Option String} (h : TInv s ex) {l : List Ep} {e : Ep}
    (hl : ∀ y ∈ l, y = e ∨ (y ∈ s.eps ∧ some y.id ≠ ex)) (hlt : e.obj < s.nextObj)
    (eid : ∀ y ∈ s.eps, y.obj = e.obj → y.id = e.id) (edisj : ∀ y ∈ s.orphans, y.obj ≠ e.obj)
    (hown : (e.timer = none ∧ e.status ≠ .recovering) ∨
      ∃ t ∈ s.timers, e.timer = some t.tid ∧ (∀ y ∈ U s, y.timer ≠ some t.tid) ∧ t.stopped = false ∧
        t.kind = .recovery e.obj e.id e.lastChange ∧ e.status = .recovering) :
    TInv { s with eps := l } none := by
  have old : ∀ y ∈ U { s with eps := l }, y = e ∨ y ∈ U s := fun y hy =>
    (mem_U.mp hy).elim (fun h1 => (hl y h1).imp_right fun h2 => mem_U.mpr (Or.inl h2.1))
      (fun h1 => Or.inr (mem_U.mpr (Or.inr h1)))
  -- a timer of `e` is an allocated one that no object of `s` owns
  have etm : ∀ tid, e.timer = some tid → tid < s.nextTid ∧ ∀ y ∈ U s, y.timer ≠ some tid := by
    intro tid htid
    rcases hown with ⟨hn, _⟩ | ⟨t, ht, he, hfree, _⟩
    · rw [hn] at htid; cases htid
    · rw [he] at htid; cases htid; exact ⟨h.tidLt t ht, hfree⟩
  exact { h with
    ownLt := fun y hy tid hty => (old y hy).elim (fun he => (etm tid (he ▸ hty)).1) (fun hy => h.ownLt y hy tid hty)
    own := by
      intro y hy z hz tid h1 h2
      rcases old y hy with rfl | hy <;> rcases old z hz with rfl | hz
      · rfl
      · exact absurd h2 ((etm tid h1).2 z hz)
      · exact absurd h1 ((etm tid h2).2 y hy)
      · exact h.own y hy z hz tid h1 h2
    objLt := fun y hy => (old y hy).elim (fun he => he ▸ hlt) (h.objLt y)
    objId := by
      intro a ha b hb hab
      rcases hl a ha with rfl | ⟨ha, _⟩ <;> rcases hl b hb with rfl | ⟨hb, _⟩
      · rfl
      · exact (eid b hb hab.symm).symm
      · exact eid a ha hab
      · exact h.objId a ha b hb hab
    objDisj := by
      intro a ha b hb
      rcases hl a ha with rfl | ⟨ha, _⟩
      · exact fun heq => edisj b hb heq.symm
      · exact h.objDisj a ha b hb
    recov := by
      intro x hx hrec _
      rcases hl x hx with rfl | ⟨hx, hne⟩
      · rcases hown with ⟨_, hn⟩ | ⟨t, ht, he, _, hlive, hk, _⟩
        · exact absurd hrec hn
        · exact ⟨t, ht, he, hlive, hk⟩
      · exact h.recov x hx hrec hne
    quiet := by
      intro x hx hnr t' ht' hty
      rcases hl x hx with rfl | ⟨hx, _⟩
      · rcases hown with ⟨hn, _⟩ | ⟨_, _, _, _, _, _, hr⟩
        · rw [hn] at hty; cases hty
        · exact absurd hr hnr
      · exact h.quiet x hx hnr t' ht' hty }

theorem tinv_arm {s : St} {ex : Option String} (h : TInv s ex) {l : List Ep} {e : Ep}
    (hl : ∀ y ∈ l, y = e ∨ (y ∈ s.eps ∧ some y.id ≠ ex)) (hlt : e.obj < s.nextObj)
    (eid : ∀ y ∈ s.eps, y.obj = e.obj → y.id = e.id) (edisj : ∀ y ∈ s.orphans, y.obj ≠ e.obj)
    (htm : e.timer = some s.nextTid) (hrec : e.status = .recovering) (dl : Int) :
    TInv { addTimer s dl (.recovery e.obj e.id e.lastChange) with eps := l } none :=
  tinv_put (tinv_addTimer h dl (.recovery e.obj e.id e.lastChange)) hl hlt eid edisj
    (Or.inr ⟨_, List.mem_append.mpr (Or.inr (List.mem_singleton.mpr rfl)), htm,
      fun y hy hty => absurd (h.ownLt y hy s.nextTid hty) (Nat.lt_irrefl _), rfl, rfl, hrec⟩)

theorem tinv_enterRecovery {s : St} (h : TInv s none)
    (hid : ∀ a ∈ s.eps, ∀ b ∈ s.eps, a.id = b.id → a = b) {e : Ep} (he : e ∈ s.eps) :
    TInv (enterRecovery s e) none := by
  -- after `setState` the entry of `e` is recovering without a timer: it is the exception
  have h1 : TInv (setStateEp s e .recovering) (some e.id) :=
    tinv_setStateEp h hid he (by intro _ hx; cases hx) (fun _ => rfl)
  have hx : touch .recovering s.now e ∈ (setStateEp s e .recovering).eps := mem_updId_iff.mpr (Or.inl ⟨e, he, rfl, rfl⟩)
  have hid' : ∀ a ∈ (setStateEp s e .recovering).eps, ∀ b ∈ (setStateEp s e .recovering).eps, a.id = b.id → a = b :=
    idInj_map _ (fun x => by split <;> rfl) hid
  exact tinv_arm h1 (e := { touch .recovering s.now e with timer := some s.nextTid })
    (fun y hy => (mem_updId_of_inj hid' hx hy).imp_right fun ⟨hy, hne⟩ => ⟨hy, fun heq => hne (Option.some.inj heq)⟩)
    (h1.objLt (touch .recovering s.now e) (mem_U.mpr (Or.inl hx))) (fun y hy => h1.objId y hy (touch .recovering s.now e) hx)
    (fun y hy heq => h1.objDisj (touch .recovering s.now e) hx y hy heq.symm) rfl rfl s.r

theorem tinv_newEndpoint {s : St} (h : TInv s none) (id : String) (prio : Nat) :
    TInv (addNew s id prio) none := by
  -- the allocator moves on: `s.nextObj` is now an unused number
  have h1 : TInv { s with nextObj := s.nextObj + 1 } none :=
    tinv_of_objs h (Nat.le_refl _) (Nat.le_succ _) (fun y hy => ⟨y, hy, rfl, rfl, rfl⟩) (fun y hy => ⟨y, hy, rfl, rfl⟩)
      h.tidLt h.tidNd h.recov h.quiet
  have hnew : ∀ y ∈ U s, y.obj ≠ s.nextObj := fun y hy => Nat.ne_of_lt (h.objLt y hy)
  have hl : ∀ e, ∀ y ∈ s.eps ++ [e], y = e ∨ (y ∈ s.eps ∧ some y.id ≠ none) := fun e y hy =>
    (List.mem_append.mp hy).elim (fun h1 => Or.inr ⟨h1, nofun⟩) (fun h1 => Or.inl (List.mem_singleton.mp h1))
  have eid : ∀ y ∈ s.eps, y.obj = s.nextObj → y.id = id := fun y hy heq => absurd heq (hnew y (mem_U.mpr (Or.inl hy)))
  have edisj : ∀ y ∈ s.orphans, y.obj ≠ s.nextObj := fun y hy => hnew y (mem_U.mpr (Or.inr hy))
  rw [addNew_eq]
  by_cases hr : s.r > 0
  · rw [if_pos hr]
    exact tinv_arm h1 (hl _) (Nat.lt_succ_self _) eid edisj rfl rfl s.r
  · rw [if_neg hr]
    exact tinv_put h1 (hl _) (Nat.lt_succ_self _) eid edisj (Or.inl ⟨rfl, by simp⟩)

/-- the predicate is determined by the id, so no object is on both sides afterwards -/
theorem tinv_moveOut {s : St} (h : TInv s none) (p : Ep → Bool) (hp : ∀ a b : Ep, a.id = b.id → p a = p b) :
    TInv (moveOut s p) none := by
  have hE : ∀ x ∈ (moveOut s p).eps, x ∈ s.eps := fun x hx => (List.mem_filter.mp hx).1
  have hU : ∀ x ∈ U (moveOut s p), x ∈ U s := by
    intro x hx
    rcases mem_U.mp hx with h1 | h1
    · exact mem_U.mpr (Or.inl (hE x h1))
    · exact mem_U.mpr ((List.mem_append.mp h1).symm.imp_left fun h2 => (List.mem_filter.mp h2).1)
  exact { h with
    ownLt := fun x hx => h.ownLt x (hU x hx)
    own := fun x hx y hy => h.own x (hU x hx) y (hU y hy)
    objLt := fun x hx => h.objLt x (hU x hx)
    objId := fun a ha b hb => h.objId a (hE a ha) b (hE b hb)
    objDisj := by
      intro a ha b hb
      have ha' := List.mem_filter.mp ha
      rcases List.mem_append.mp hb with hb | hb
      · exact h.objDisj a ha'.1 b hb
      · have hb' := List.mem_filter.mp hb
        intro hab
        have := hp a b (h.objId a ha'.1 b hb'.1 hab)
        have h1 : p a = false := by simpa using ha'.2
        rw [this, hb'.2] at h1; cases h1
    recov := fun x hx => h.recov x (hE x hx)
    quiet := fun x hx => h.quiet x (hE x hx) }

theorem tinv_muc {s : St} (h : TInv s none) : TInv (maybeUpdateCurrent s) none := by
  obtain ⟨o, -, hm⟩ := muc_spec s
  rw [hm]
  cases o with
  | none => exact { h with }
  | some t => exact tinv_addTimer (s := { s with future := t.id }) { h with } s.d .switch

theorem tinv_fireSwitch {s : St} (h : TInv s none) : TInv (fireSwitch s) none := by
  rcases fireSwitch_spec s with ⟨hid, -⟩ | ⟨e, -, -, hsw, -⟩
  · rw [hid]; exact h
  · rw [hsw]; exact { h with }

theorem tinv_owner {s : St} (h : TInv s none) {tid : Nat} {t : Timer} (htm : t ∈ s.timers) (htid : t.tid = tid)
    {k : TimerKind} (hk : t.kind = k) {x : Ep} (hx : x ∈ s.eps) (hrec : x.status = .recovering)
    (hxt : x.timer = some tid) : k = .recovery x.obj x.id x.lastChange := by
  obtain ⟨tx, htx, h1, _, h3⟩ := h.recov x hx hrec (by simp)
  rw [← hk, ← h.tidInj tx htx t htm (by rw [htid]; rw [hxt] at h1; exact (Option.some.inj h1).symm)]
  exact h3

theorem tinv_report {s s1 : St} {id : String} {a : Bool} (h : TInv s none) (hb : Base s)
    (hr : Report s id a s1) : TInv s1 none := by
  cases hr with
  | noop => exact h
  | up e hf | down e hf => exact tinv_setStateEp h hb.idInj (findEp_some hf).1 (by intro _ hx; cases hx) (by simp)
  | window e hf => exact tinv_enterRecovery h hb.idInj (findEp_some hf).1

theorem tinv_step {s : St} (h : TInv s none) (hi : Inv s) (op : Op) : TInv (stepRaw s op).1 none := by
  have hs := step_spec s op
  generalize (stepRaw s op).1 = s' at hs ⊢
  cases hs with
  | idle => exact h
  | advance dt => exact { h with }
  | report e a s1 hr => exact tinv_muc (tinv_report h hi.toBase hr)
  | list l hl =>
    rw [dropObsolete_eq]
    exact tinv_muc (addOrUpdate_ind' (P := (TInv · none)) (fun _ x i h _ => tinv_newEndpoint h x i)
      (fun _ x i h => tinv_prio h x i) l _ (tinv_moveOut h _ (by intro a b hab; simp [hab])))
  | switch tid t htm htid _ hk =>
    exact tinv_fireSwitch (tinv_remove h tid none fun x hx hrec hxt => nomatch tinv_owner h htm htid hk hx hrec hxt)
  | stale tid t obj id stamp htm htid _ hk hno =>
    -- an endpoint recovering on this timer would be the map entry the closure looks for
    refine tinv_remove h tid none fun x hx hrec hxt => ?_
    cases tinv_owner h htm htid hk hx hrec hxt
    exact absurd rfl (hno x (findEp_of_mem hi.idInj hx) rfl)
  | expire tid t e htm htid _ hk hfe =>
    apply tinv_muc
    refine tinv_setStateEp (s := dropTimer s tid) (ex := some e.id) ?_ hi.idInj (findEp_some hfe).1
      (by intro i hi; cases hi; rfl) (by simp)
    refine tinv_remove h tid (some e.id) fun x hx hrec hxt => ?_
    rw [(TimerKind.recovery.inj (tinv_owner h htm htid hk hx hrec hxt)).2.1]
  | expireOrphan tid t o id htm htid _ hk ho hno =>
    refine tinv_muc (tinv_setStateOrphan (s := dropTimer s tid) (tinv_remove h tid none fun x hx hrec hxt => ?_) ho _)
    obtain ⟨hobj, hid, -⟩ := TimerKind.recovery.inj (tinv_owner h htm htid hk hx hrec hxt)
    exact absurd hobj.symm (hno x (hid ▸ findEp_of_mem hi.idInj hx))

theorem tinv_init {r d : Int} {l : List String} {s : St} (h : initRaw r d l = some s) : TInv s none :=
  initRaw_ind (P := fun s _ => TInv s none) h
    -- no timer and no object yet: every field speaks of the members of an empty list
    (fun _ _ => by refine ⟨?_, ?_, ?_, ?_, ?_, ?_, ?_, ?_, ?_, List.nodup_nil⟩ <;> intro _ h <;> cases h)
    (fun s _ x h => tinv_newEndpoint (tinv_moveOut h _ (by intro a b hab; simp [hab])) x _)

theorem reach_tinv {s : St} (h : Reach s) : TInv s none := by
  induction h with
  | initRaw _ _ hi => exact tinv_init hi
  | stepRaw op hr ih => exact tinv_step ih (reach_inv hr) op

end GcpVerif.ME
