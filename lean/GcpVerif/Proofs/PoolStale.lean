/-
C07 — why re-validating the detector's decision by the last-response time alone is enough.

A completion decides to refresh without holding the balancer lock and acts on the decision later
(`refreshSince`), after any number of other operations.  One operation either stamps a slot's record
with the then current time (a response, a completed refresh) or keeps last-response time and refresh
count and lets the counter of deadline-exceeded calls stay or go up (`det_step`), and the clock never
goes back (`fwd_step`); folded along the operations in between, that is `decision_still_due`.  So
whenever the test `lastResp = since ∧ ¬ refreshing` lets the refresh go ahead, the rule the decision
was made by (`Due`: enough counted calls, the window elapsed) holds in the state in which it is acted upon.
-/
import GcpVerif.Proofs.PoolDetector
namespace GcpVerif.Pool

/-- the clock does not go back and a configuration, once there, stays -/
def Fwd (s s' : St) : Prop := s.now ≤ s'.now ∧ ∀ c, s.cfg = some c → s'.cfg = some c

theorem Fwd.refl (s : St) : Fwd s s := ⟨Int.le_refl _, fun _ h => h⟩
theorem Fwd.trans {a b c : St} (h1 : Fwd a b) (h2 : Fwd b c) : Fwd a c :=
  ⟨Int.le_trans h1.1 h2.1, fun x h => h2.2 x (h1.2 x h)⟩

def nc (s : St) : Int × Option Cfg := (s.now, s.cfg)

theorem fwd_of_nc {s s' : St} (h : nc s' = nc s) : Fwd s s' := by
  simp only [nc, Prod.mk.injEq] at h
  exact ⟨Int.le_of_eq h.1.symm, fun c hc => h.2.trans hc⟩

@[simp] theorem nc_modRef (s : St) (j : Slot) (f : RefSt → RefSt) : nc (modRef s j f) = nc s := rfl

theorem fwd_frame {s : St} {cfgIn addrs nReady nConn nTF aggr affinity fallback scStates scRefs refs rr refreshingMap picker nextSc
    failN scAddrs removed published calls waiters held} :
    Fwd s { s with cfgIn, addrs, nReady, nConn, nTF, aggr, affinity, fallback, scStates, scRefs, refs, rr, refreshingMap, picker,
                   nextSc, failN, scAddrs, removed, published, calls, waiters, held } :=
  fwd_of_nc rfl

theorem fwd_stage {s0 s s' : St} {op : Op} (st : Stage s0 op s s') : Fwd s s' := by
  cases st with
  | setCfg v hc => exact ⟨Int.le_refl _, fun c h => by rw [hc] at h; cases h⟩
  | setNow n => exact ⟨Int.le_add_of_nonneg_right (Int.natCast_nonneg n), fun _ h => h⟩
  | _ => exact fwd_frame

/-- **every operation**: the clock does not go back, a configuration stays -/
theorem fwd_step (s : St) (op : Op) : Fwd s (step s op).1 :=
  step_induct op (P := Fwd s) (fun st h => h.trans (fwd_stage st)) (Fwd.refl s)

/-- how one operation may change a slot's detector record: a reset stamps it with the current time;
    otherwise last-response time and refresh count stay and the counter stays or goes up by one -/
def DetStep (now : Int) (d d' : Det) : Prop :=
  d'.lastResp = now ∨
  (d'.lastResp = d.lastResp ∧ d'.refreshCnt = d.refreshCnt ∧ (d'.deCalls = d.deCalls ∨ d'.deCalls = satInc d.deCalls))

theorem DetStep.same (now : Int) (d : Det) : DetStep now d d := Or.inr ⟨rfl, rfl, Or.inl rfl⟩

theorem detStep_detNext (c : Cfg) (now : Int) (call : Call) (isResp : Bool) (d : Det) :
    DetStep now d (detNext c now call isResp d) := by
  unfold detNext
  cases c.detection with
  | false => exact DetStep.same _ _
  | true =>
    cases isResp with
    | true => exact Or.inl rfl
    | false =>
      show DetStep now d (if call.started < d.lastResp then d else _)
      by_cases h : call.started < d.lastResp
      · rw [if_pos h]; exact DetStep.same _ _
      · rw [if_neg h]; exact Or.inr ⟨rfl, rfl, Or.inr rfl⟩

/-- **every operation, every slot** -/
theorem det_step (s : St) (op : Op) (i : Slot) (d : Det) (hd : detAt s i = some d) :
    ∃ d', detAt (step s op).1 i = some d' ∧ DetStep s.now d d' := by
  cases op with
  | scs sc st order =>
    obtain ⟨d', h1, h2, h3⟩ := detector_scs s sc st order i d hd
    refine ⟨d', h1, ?_⟩
    by_cases hc : lookup s.refreshingMap sc = some i ∧ st = .ready
    · rw [h2 hc]; exact Or.inl rfl
    · rw [h3 hc]; exact DetStep.same _ _
  | done callId err reply =>
    cases hf : s.calls.find? (fun x => x.id == callId) with
    | none => exact ⟨d, detector_done_unknown s callId err reply hf i d hd, DetStep.same _ _⟩
    | some call =>
      cases hc : s.cfg with
      | none => exact ⟨d, detSame_done_refused err reply (Or.inr hc) i d hd, DetStep.same _ _⟩
      | some c =>
        obtain ⟨d', h1, h2, h3⟩ := detector_done s callId err reply call c hf hc i d hd
        refine ⟨d', h1, ?_⟩
        by_cases hi : i = call.slot
        · -- `DetStep` reads of `d'` the three fields that `detNext` determines
          obtain ⟨e1, e2, e3, _⟩ := h3 hi
          have := detStep_detNext c s.now call (isResponse s err call.dl) d
          unfold DetStep at this ⊢
          rwa [e1, e2, e3]
        · rw [h2 hi]; exact DetStep.same _ _
  | _ => exact ⟨d, detector_quiet s _ (by trivial) i d hd, DetStep.same _ _⟩

theorem windowNs_nonneg (c : Cfg) (k : Nat) : 0 ≤ windowNs c k := by
  rcases window_monotone_or_saturated c k with e | e <;> rw [e]
  · decide
  · exact Int.mul_nonneg (Int.natCast_nonneg _) (by decide)

/-- the standing part of the rule of C07 for a slot's record: enough counted calls since the last
    response and more than the (doubling) window elapsed since then -/
def Due (c : Cfg) (now : Int) (d : Det) : Prop :=
  c.uc ≤ d.deCalls ∧ d.lastResp < now - windowNs c d.refreshCnt

/-- along a run that follows a decision based on the record `d` at time `t0`: the slot's record still stems from `d`
    (same last response, same refresh count, no fewer counted calls), or it has been stamped since -/
def Since (t0 : Int) (d d1 : Det) : Prop :=
  (d1.lastResp = d.lastResp ∧ d1.refreshCnt = d.refreshCnt ∧ d.deCalls ≤ d1.deCalls) ∨ t0 ≤ d1.lastResp

theorem Since.step {t0 now : Int} {d d1 d2 : Det} (hnow : t0 ≤ now) (h : Since t0 d d1) (g : DetStep now d1 d2) :
    Since t0 d d2 := by
  rcases g with hreset | ⟨e1, e2, e3⟩
  · exact .inr (hreset ▸ hnow)
  · rcases h with ⟨k1, k2, k3⟩ | hge
    · refine .inl ⟨e1.trans k1, e2.trans k2, ?_⟩
      rcases e3 with e3 | e3 <;> rw [e3]
      · exact k3
      · exact Nat.le_trans k3 (satInc_counts d1.deCalls).2.1
    · exact .inr (e1 ▸ hge)

theorem since_run {i : Slot} {c : Cfg} {t0 : Int} {d : Det} (ops : List Op) : ∀ {s1 : St} {d1 : Det}, detAt s1 i = some d1 →
    s1.cfg = some c → t0 ≤ s1.now → Since t0 d d1 →
    ∃ d', detAt (run s1 ops) i = some d' ∧ (run s1 ops).cfg = some c ∧ t0 ≤ (run s1 ops).now ∧ Since t0 d d' := by
  induction ops with
  | nil => exact fun h1 h2 h3 h4 => ⟨_, h1, h2, h3, h4⟩
  | cons op rest ih =>
    intro s1 d1 h1 h2 h3 h4
    obtain ⟨d2, g1, g2⟩ := det_step s1 op i d1 h1
    have hf := fwd_step s1 op
    exact ih g1 (hf.2 c h2) (Int.le_trans h3 hf.1) (h4.step h3 g2)

/-- **C07, the re-validation of a decision taken outside the lock** — for every state in which the
    rule holds for a slot (the decision), every operation sequence that follows (completions of any
    calls on any slots, state reports, swaps, refreshes of other slots, resolver updates, picks, clock
    advances) and the state `s'` it leads to (where the decision is acted upon):
    * if the slot's last-response time in `s'` is still the one of the decision, the rule holds in `s'`
      too — the counter has not gone down, the refresh count is the same, the clock has not gone back;
    * otherwise a response or a completed refresh has intervened, and the new last-response time is
      not before the moment of the decision.
    So comparing the last-response time (plus "no refresh in progress", which `refresh` tests itself)
    is the whole re-validation. -/
theorem decision_still_due (ops : List Op) (s : St) (c : Cfg) (i : Slot) (d : Det)
    (hc : s.cfg = some c) (hd : detAt s i = some d) (hdue : Due c s.now d) :
    ∃ d', detAt (run s ops) i = some d' ∧ (run s ops).cfg = some c ∧ s.now ≤ (run s ops).now ∧
      (d'.lastResp = d.lastResp → Due c (run s ops).now d' ∧ d'.refreshCnt = d.refreshCnt ∧ d.deCalls ≤ d'.deCalls) ∧
      (d'.lastResp ≠ d.lastResp → s.now ≤ d'.lastResp) := by
  obtain ⟨d', h1, h2, h3, h4⟩ := since_run ops hd hc (Int.le_refl _) (.inl ⟨rfl, rfl, Nat.le_refl _⟩)
  refine ⟨d', h1, h2, h3, fun he => ?_, fun hne => h4.resolve_left fun h => hne h.1⟩
  have := windowNs_nonneg c d.refreshCnt
  have := hdue.2
  rcases h4 with ⟨_, hr, hn⟩ | hge
  · refine ⟨⟨Nat.le_trans hdue.1 hn, ?_⟩, hr, hn⟩
    rw [he, hr]
    omega
  · -- a stamp after the decision is later than the last response the decision was based on
    rw [he] at hge; omega

/-! ### when a call starts (the detector compares it with the slot's last response) -/

theorem place_started (s : St) (call : Nat) (slot : Slot) (cmd : Cmd) (loc : Loc) (key : String) (ctx : CtxKind)
    (dl : Option Int) : (place s call slot cmd loc key ctx dl).1.now = s.now ∧
    ∀ c ∈ (place s call slot cmd loc key ctx dl).1.calls, c ∈ s.calls ∨ c.started = s.now := by
  cases hg : getRef s slot with
  | none => rw [place_none hg]; exact ⟨rfl, fun c hc => Or.inl hc⟩
  | some r =>
    rw [place_some hg]
    refine ⟨rfl, fun c hc => (List.mem_append.mp hc).imp id fun h => ?_⟩
    rw [List.mem_singleton.mp h]

/-- **a round-robin BIND call that waited for its channel starts when it is handed the channel**, not when
    `Pick` was entered: every call the wake-up pass puts in flight carries the current time -/
theorem woken_call_starts_now (s : St) :
    (wakeWaiters s).1.now = s.now ∧ ∀ c ∈ (wakeWaiters s).1.calls, c ∈ s.calls ∨ c.started = s.now := by
  refine wake_induct (P := fun a => a.now = s.now ∧ ∀ c ∈ a.calls, c ∈ s.calls ∨ c.started = s.now)
    (fun {a} w r hg h => ?_) ⟨rfl, fun _ hc => Or.inl hc⟩
  have hp := place_started { a with waiters := a.waiters.filter fun x => x.id != w.id } w.id w.slot .bind w.loc "" w.ctx w.dl
  rw [place_some (by exact hg)] at hp
  exact ⟨hp.1.trans h.1, fun c hc => (hp.2 c hc).elim (h.2 c) fun e => Or.inr (e.trans h.1)⟩

/-! non-vacuity: a history after which the rule holds for slot 0 (uc = 2; two calls past their deadlines are
    counted and the second completion has started the refresh: record `(0, 2, true)`), and two continuations:
    the replacement takes over and a fresh call is counted — the last-response time has moved to the time of the
    swap; or the clock advances and a third call on the slot ends past its deadline — the last-response time is
    the same and the call is counted -/
def staleCfg : CfgInput := .given { min := 1, max := 1, wm := 100, fb := false, rr := false, uc := 2, ums := 1, methods := true }
def staleOps : List Op := [.ccs 1, .scs 0 .ready [0], .pick 1 0 "plain" .gcp (some 0) (.msg ⟨"", []⟩),
  .pick 2 0 "plain" .gcp (some 0) (.msg ⟨"", []⟩), .pick 3 0 "plain" .gcp (some 0) (.msg ⟨"", []⟩), .adv 1000001,
  .done 1 .deClient ⟨"", []⟩, .done 2 .deClient ⟨"", []⟩]

example : (detAt (run (init staleCfg) staleOps) 0).map (fun d => (d.lastResp, d.deCalls, d.refreshing)) = some (0, 2, true) := by
  decide +kernel
example : (run (init staleCfg) staleOps).cfg = some (initialCfg staleCfg) ∧
    Due (initialCfg staleCfg) (run (init staleCfg) staleOps).now ⟨0, 2, 0, true⟩ := by
  unfold Due; decide +kernel
example : (detAt (run (init staleCfg) (staleOps ++ [.scs 1 .ready [0], .pick 4 0 "plain" .gcp (some 0) (.msg ⟨"", []⟩),
    .done 4 .deClient ⟨"", []⟩])) 0).map (fun d => (d.lastResp, d.deCalls, d.refreshing)) = some (1000001, 1, false) := by
  decide +kernel
example : (detAt (run (init staleCfg) (staleOps ++ [.adv 5, .done 3 .deClient ⟨"", []⟩])) 0).map
    (fun d => (d.lastResp, d.deCalls, d.refreshing)) = some (0, 3, true) := by
  decide +kernel

end GcpVerif.Pool
