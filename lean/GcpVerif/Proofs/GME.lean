/-
C15 / C16 — theorems about the GCPMultiEndpoint model (after fixes F15 / F16).
Every statement holds for every switching delay the MultiEndpoints are configured with.
-/
import GcpVerif.Model.GME
namespace GcpVerif.GME

theorem notifyAll_fields (s : St) (e : String) (a : Bool) :
    (notifyAll s e a).pools = s.pools ∧ (notifyAll s e a).dials = s.dials ∧ (notifyAll s e a).closed = s.closed ∧
    (notifyAll s e a).defaultName = s.defaultName ∧ (notifyAll s e a).alive = s.alive := by simp [notifyAll]

theorem foldl_notify_fields (l : List String) (r : String → Bool) (s : St) :
    (l.foldl (fun s e => notifyAll s e (r e)) s).pools = s.pools ∧
    (l.foldl (fun s e => notifyAll s e (r e)) s).dials = s.dials ∧
    (l.foldl (fun s e => notifyAll s e (r e)) s).closed = s.closed ∧
    (l.foldl (fun s e => notifyAll s e (r e)) s).defaultName = s.defaultName ∧
    (l.foldl (fun s e => notifyAll s e (r e)) s).alive = s.alive := by
  apply List.foldlRecOn l (motive := fun s' : St => s'.pools = s.pools ∧ s'.dials = s.dials ∧ s'.closed = s.closed ∧
    s'.defaultName = s.defaultName ∧ s'.alive = s.alive)
  · exact ⟨rfl, rfl, rfl, rfl, rfl⟩
  · -- `notifyAll` writes `mes` only
    exact fun _ h _ _ => h

/-- the state an accepted `update` returns -/
def updated (s : St) (d : String) (o : Opts) (r : String → Bool) (dl : Int) : St :=
  { s with mes := o.filterMap fun p => (configure s dl p).map fun q => (q.1, tellOwn r (p.2.getD []) q.2),
           pools := (s.pools ++ (validEndpoints o).filter fun e => !s.pools.contains e).filter fun e => (validEndpoints o).contains e,
           dials := ((validEndpoints o).filter fun e => !s.pools.contains e).foldl bumpDial s.dials,
           closed := s.closed ++ (s.pools ++ (validEndpoints o).filter fun e => !s.pools.contains e).filter fun e => !(validEndpoints o).contains e,
           defaultName := d, alive := true }

theorem update_eq (s : St) (d : String) (o : Opts) (f : List String) (r : String → Bool) (dl : Int) :
    update s d o f r dl =
      if optsValid d o = true ∧ ∀ e ∈ validEndpoints o, e ∉ s.pools → e ∉ f then (updated s d o r dl, true)
      else (s, false) := by
  have hany : (((validEndpoints o).filter fun e => !s.pools.contains e).any fun e => f.contains e) = false ↔
      ∀ e ∈ validEndpoints o, e ∉ s.pools → e ∉ f := by
    simp only [List.contains_eq_mem, List.any_filter, List.any_eq_false, Bool.and_eq_true, Bool.not_eq_eq_eq_not,
      Bool.not_true, decide_eq_false_iff_not, decide_eq_true_eq, not_and]
  by_cases hv : optsValid d o = true
  · by_cases hd : ∀ e ∈ validEndpoints o, e ∉ s.pools → e ∉ f
    · rw [if_pos ⟨hv, hd⟩]
      simp only [update, hv, hany.mpr hd, Bool.not_true, Bool.false_eq_true, ↓reduceIte, updated]
    · rw [if_neg (fun h => hd h.2)]
      simp only [update, hv, Bool.not_true, Bool.false_eq_true, ↓reduceIte, Bool.of_not_eq_false (mt hany.mp hd)]
  · rw [if_neg (fun h => hv h.1)]
    simp only [update, hv, Bool.not_false, ↓reduceIte]

theorem update_accepted {s : St} {d : String} {o : Opts} {f : List String} {r : String → Bool} {dl : Int}
    (h : (update s d o f r dl).2 = true) :
    (update s d o f r dl).1 = updated s d o r dl ∧ (∃ p ∈ o, p.1 = d) ∧ ∀ p ∈ o, ∃ l, p.2 = some l ∧ l ≠ [] := by
  rw [update_eq] at h ⊢
  split at h
  · rename_i hv
    refine ⟨by rw [if_pos hv], ?_⟩
    have := hv.1
    simp only [optsValid, Bool.and_eq_true, List.any_eq_true, List.all_eq_true, beq_iff_eq] at this
    refine ⟨this.1, fun p hp => ?_⟩
    have := this.2 p hp
    cases hp2 : p.2 with
    | none => simp [hp2] at this
    | some l => exact ⟨l, rfl, by simpa [hp2] using this⟩
  · cases h

/-- **C16** a rejected update changes nothing: every RPC is routed exactly as before -/
theorem failed_update_is_identity (s : St) (d : String) (o : Opts) (f : List String) (r : String → Bool)
    (dl : Int) (h : (update s d o f r dl).2 = false) : (update s d o f r dl).1 = s := by
  rw [update_eq] at h ⊢
  split at h
  · cases h
  · rw [if_neg ‹_›]

/-- **C16** invalid options are rejected: default name without options, a MultiEndpoint with an
    empty endpoint list or nil options -/
theorem invalid_options_rejected (s : St) (d : String) (o : Opts) (f : List String) (r : String → Bool)
    (dl : Int) (h : optsValid d o = false) : (update s d o f r dl).2 = false := by
  rw [update_eq, if_neg (fun hv => by rw [h] at hv; cases hv.1)]

/-- **C16** a dial failure at any dial rejects the update -/
theorem dial_failure_rejected (s : St) (d : String) (o : Opts) (f : List String) (r : String → Bool)
    (dl : Int) (e : String) (he : e ∈ validEndpoints o) (hnew : e ∉ s.pools) (hf : e ∈ f) :
    (update s d o f r dl).2 = false := by
  rw [update_eq, if_neg (fun hv => hv.2 e he hnew hf)]

/-- **C15** after a successful update the endpoints with an open pool are exactly the endpoints mentioned by
    some configured MultiEndpoint -/
theorem pools_exact_after_update (s : St) (d : String) (o : Opts) (f : List String) (r : String → Bool)
    (dl : Int) (h : (update s d o f r dl).2 = true) :
    ∀ e, e ∈ (update s d o f r dl).1.pools ↔ e ∈ validEndpoints o := by
  intro e
  rw [(update_accepted h).1]
  simp only [updated, List.mem_filter, List.mem_append, List.contains_iff_mem]
  -- a valid endpoint has a pool: it had one, or it was dialled now
  exact ⟨fun h' => h'.2, fun he => ⟨(Classical.em (e ∈ s.pools)).imp_right fun hp => ⟨he, by simpa using hp⟩, he⟩⟩

/-- **C15** pools that are kept are not dialled again: the list `updated` dials is filtered to the endpoints
    without an open pool, so none on it has one -/
theorem only_missing_dialled (s : St) (o : Opts) :
    ∀ e ∈ ((validEndpoints o).filter fun e => !s.pools.contains e), e ∉ s.pools := by
  intro e he
  simp only [List.mem_filter, Bool.not_eq_eq_eq_not, Bool.not_true, List.contains_eq_mem, decide_eq_false_iff_not] at he
  exact he.2

/-- **C16** Close() closes every pool -/
theorem close_releases_all (s : St) : (close s).pools = [] ∧ (close s).alive = false ∧
    ∀ e ∈ s.pools, e ∈ (close s).closed := by
  refine ⟨rfl, rfl, ?_⟩
  intro e he
  simp [close, he]

/-- **K9** (known finding, in the model as in the code) Close() releases the pools but leaves the timers of
    the MultiEndpoints armed: a MultiEndpoint [a, b] with a switching delay that was told "b available", then
    "a available", has a delayed switch pending, and still has it after Close() -/
theorem close_leaves_timers :
    let s1 := (update init "m" [("m", some ["a", "b"])] [] (fun _ => false) 5).1
    let s3 := notifyAll (notifyAll s1 "b" true) "a" true
    (close s3).pools = [] ∧ (close s3).mes.any (fun p => p.2.timers.any fun t => !t.stopped) = true := by decide

/-- **C15** an RPC goes through the pool of the endpoint that is current for the MultiEndpoint
    named in its context, or for the default one when the context names none or an unknown one -/
theorem rpc_routes_current (s : St) (name : Option String) (e : String) (h : rpc s name = some e) :
    ∃ me, pickME s name = some me ∧ me.current = e ∧ e ∈ s.pools := by
  unfold rpc at h
  cases hp : pickME s name with
  | none => simp [hp] at h
  | some me =>
    simp only [hp] at h
    split at h
    · rename_i hc
      simp only [Option.some.injEq] at h
      exact ⟨me, rfl, h, by rw [← h]; simpa using hc⟩
    · cases h

theorem pickME_known (s : St) (n : String) (me : ME.St) (h : findME s n = some me) :
    pickME s (some n) = some me := by simp [pickME, h]

theorem pickME_unknown (s : St) (n : String) (h : findME s n = none) :
    pickME s (some n) = findME s s.defaultName := by simp [pickME, h]

theorem pickME_no_name (s : St) : pickME s none = findME s s.defaultName := by simp [pickME]

end GcpVerif.GME
