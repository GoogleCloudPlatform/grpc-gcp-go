/-
C19 — theorems about the checksum codec model.
The tag bytes are *computed* from the constants regenerated from e2e-checksum/main.go
(Generated/Consts.lean); change a constant in the Go file and `tag_bytes` no longer checks.
-/
import GcpVerif.Model.Checksum
import GcpVerif.Generated.Consts
namespace GcpVerif.Checksum

def field : Nat := GcpVerif.Generated.checksumField.toNat
def wire : Nat := GcpVerif.Generated.checksumWireType.toNat

/-- tie: the generated constants are the ones the property names (field 2047, 32-bit wire type) -/
theorem consts_tie : GcpVerif.Generated.checksumField = 2047 ∧ GcpVerif.Generated.checksumWireType = 5 := by
  decide

/-- the checksum tag is the two bytes FD 7F -/
theorem tag_bytes : varint (tagOf field wire) = [0xFD, 0x7F] := by
  -- 16381 = 125 + 128 * 127: one continuation byte, one last byte
  have : tagOf field wire = 16381 := by decide
  rw [this, varint, dif_neg (by decide), varint, dif_pos (by decide)]
  rfl

theorem fixed32le_length (n : Nat) : (fixed32le n).length = 4 := rfl

/-- C19: Marshal output = FD 7F, CRC32C(payload) little endian, then the payload unchanged -/
theorem marshal_bytes (b : Bytes) :
    marshal field wire (some b) = some ([0xFD, 0x7F] ++ fixed32le (crc32c b).toNat ++ b) := by
  simp [marshal, tag_bytes]

/-- exactly 6 bytes are prepended -/
theorem marshal_length (b out : Bytes) (h : marshal field wire (some b) = some out) :
    out.length = 6 + b.length := by
  rw [marshal_bytes] at h
  cases h
  exact List.length_append

/-- the payload is a suffix of the output, untouched -/
theorem marshal_payload_suffix (b out : Bytes) (h : marshal field wire (some b) = some out) :
    out.drop 6 = b := by
  rw [marshal_bytes] at h
  cases h
  exact List.drop_left' rfl

/-- a marshalling error of the wrapped codec is passed through -/
theorem marshal_error_passthrough : marshal field wire none = none := rfl

/-- if the model's wire-format parser `parseN` accepts the payload (with `n` fields' worth of fuel) it accepts the
    output and sees one extra leading field: number 2047, fixed32, value = CRC32C of the payload -/
theorem parse_marshal (n : Nat) (b out : Bytes) (h : marshal field wire (some b) = some out) :
    parseN (n + 1) out =
      (parseN n b).map fun fs => { num := 2047, payload := .fixed32 (fixed32le (crc32c b).toNat) } :: fs := by
  rw [marshal_bytes] at h
  cases h
  simp only [fixed32le, List.cons_append, List.nil_append]
  rw [parseN]
  · have hne : ¬ (List.length b + 1 + 1 + 1 + 1 < 4) := by omega
    simp [readVarint, takeN, hne]
  · intro h; cases h

/-- the unmarshal side is the wrapped codec unchanged -/
def unmarshal (inner : Bytes → Option α) (data : Bytes) : Option α := inner data

theorem unmarshal_is_inner (inner : Bytes → Option α) (d : Bytes) : unmarshal inner d = inner d := rfl

/-! ### what a receiver that knows the message type sees

A parser with a schema sorts the wire fields into those the message type declares (they become the
message's data) and the rest (kept aside as unknown fields). -/

/-- (declared fields, unknown fields), each in wire order -/
def sortFields (declared : Nat → Bool) (fs : List WField) : List WField × List WField :=
  (fs.filter fun f => declared f.num, fs.filter fun f => !declared f.num)

/-- **C19** for a message type that does not declare field 2047, decoding the output gives exactly the
    declared data of the original; the checksum is one more unknown field, in front of the original's -/
theorem decode_marshal (declared : Nat → Bool) (hd : declared 2047 = false) (n : Nat) (b out : Bytes) (fs : List WField)
    (h : marshal field wire (some b) = some out) (hp : parseN n b = some fs) :
    ∃ fs', parseN (n + 1) out = some fs' ∧
      (sortFields declared fs').1 = (sortFields declared fs).1 ∧
      (sortFields declared fs').2 =
        { num := 2047, payload := .fixed32 (fixed32le (crc32c b).toNat) } :: (sortFields declared fs).2 := by
  refine ⟨_, by rw [parse_marshal n b out h, hp]; rfl, ?_, ?_⟩ <;> simp [sortFields, hd]

/-- **K8** (the property fails, in the model as in the code) for a message type that *declares* field
    2047 the checksum lands among the declared data: the decoded message has one more declared field
    value than the original, whatever the original was -/
theorem declared_2047_corrupts (declared : Nat → Bool) (hd : declared 2047 = true) (n : Nat) (b out : Bytes) (fs : List WField)
    (h : marshal field wire (some b) = some out) (hp : parseN n b = some fs) :
    ∃ fs', parseN (n + 1) out = some fs' ∧
      (sortFields declared fs').1 =
        { num := 2047, payload := .fixed32 (fixed32le (crc32c b).toNat) } :: (sortFields declared fs).1 ∧
      (sortFields declared fs').1 ≠ (sortFields declared fs).1 := by
  have e : (sortFields declared ({ num := 2047, payload := .fixed32 (fixed32le (crc32c b).toNat) } :: fs)).1 =
      { num := 2047, payload := .fixed32 (fixed32le (crc32c b).toNat) } :: (sortFields declared fs).1 := by
    simp [sortFields, hd]
  exact ⟨_, by rw [parse_marshal n b out h, hp]; rfl, e, e ▸ List.cons_ne_self _ _⟩

/-- test: `Rec{name:"x"}` with `fixed32 version = 2047` declared: the decoded declared data has a `version` -/
example : (sortFields (fun k => k == 1 || k == 2047)
    [⟨2047, .fixed32 [1, 2, 3, 4]⟩, ⟨1, .lenDelim [0x78]⟩]).1 = [⟨2047, .fixed32 [1, 2, 3, 4]⟩, ⟨1, .lenDelim [0x78]⟩] := by decide +kernel

/-! ### varint round trip (the encoder and the parser's reader agree) -/

theorem toNat_toUInt8 {n : Nat} (h : n < 256) : n.toUInt8.toNat = n := UInt8.toNat_ofNat_of_lt' h

theorem readVarint_last {n : Nat} (h : n < 128) (rest : Bytes) (fuel : Nat) :
    readVarint (fuel + 1) (varint n ++ rest) = some (n, rest) := by
  have hb : n.toUInt8 < 128 := UInt8.lt_iff_toNat_lt.2 (by rw [toNat_toUInt8 (by omega)]; exact h)
  rw [varint, dif_pos h, List.singleton_append, readVarint, if_pos hb, toNat_toUInt8 (by omega)]

theorem readVarint_varint (n : Nat) (rest : Bytes) (fuel : Nat) (hf : n < 128 ^ (fuel + 1)) :
    readVarint (fuel + 1) (varint n ++ rest) = some (n, rest) := by
  induction fuel generalizing n with
  | zero => exact readVarint_last (by simpa using hf) rest 0
  | succ fuel ih =>
    by_cases h : n < 128
    · exact readVarint_last h rest _
    · -- a continuation byte carries the low 7 bits; the rest is `n / 128`, with one byte of fuel less
      have hv : (n % 128 + 128).toUInt8.toNat = n % 128 + 128 := toNat_toUInt8 (by omega)
      have hb : ¬ (n % 128 + 128).toUInt8 < 128 := fun hlt =>
        Nat.not_lt.2 (Nat.le_add_left 128 (n % 128)) (hv ▸ UInt8.lt_iff_toNat_lt.1 hlt)
      have hlt : n / 128 < 128 ^ (fuel + 1) :=
        Nat.div_lt_of_lt_mul (by rw [Nat.mul_comm, ← Nat.pow_succ]; exact hf)
      rw [varint, dif_neg h, List.cons_append, readVarint, if_neg hb, ih _ hlt, hv, Nat.add_sub_cancel]
      show some (n % 128 + 128 * (n / 128), rest) = _
      rw [Nat.mod_add_div]

/-- test: the CRC-32C check value of "123456789" is 0xE3069283 -/
example : crc32c [0x31, 0x32, 0x33, 0x34, 0x35, 0x36, 0x37, 0x38, 0x39] = 0xE3069283 := by decide +kernel

/-- test: a two-field message parses (its checksummed form then does by `parse_marshal`) -/
example : parseN 3 ([0x08, 0x96, 0x01, 0x12, 0x02, 0x68, 0x69] : Bytes) =
    some [⟨1, .varint 150⟩, ⟨2, .lenDelim [0x68, 0x69]⟩] := by decide +kernel

end GcpVerif.Checksum
