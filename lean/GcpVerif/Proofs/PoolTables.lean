/-
C04 / C05 — the connection tables of the pool model, for every reachable state:
`scStates` and `scRefs` have the same keys (exactly the pool's current connections), no key twice,
replacement connections are in neither, and the evaluator counters are exactly the number of pool
connections in each state (so no uint64 decrement ever wraps).
-/
import GcpVerif.Proofs.PoolCounts
import GcpVerif.Proofs.PoolStages
namespace GcpVerif.Pool

structure Tables (s : St) : Prop where
  ndS : (keys s.scStates).Nodup
  ndR : (keys s.scRefs).Nodup
  keysEq : ∀ sc, sc ∈ keys s.scStates ↔ sc ∈ keys s.scRefs
  freshS : ∀ sc ∈ keys s.scStates, sc < s.nextSc
  freshF : ∀ sc ∈ keys s.refreshingMap, sc < s.nextSc ∧ sc ∉ keys s.scStates
  cReady : s.nReady = countState s.scStates .ready
  cConn : s.nConn = countState s.scStates .connecting
  cTF : s.nTF = countState s.scStates .tf

def SameT (s s' : St) : Prop :=
  s'.scStates = s.scStates ∧ s'.scRefs = s.scRefs ∧ s'.refreshingMap = s.refreshingMap ∧
  s'.nextSc = s.nextSc ∧ s'.nReady = s.nReady ∧ s'.nConn = s.nConn ∧ s'.nTF = s.nTF

theorem tables_of_same {s s' : St} (h : Tables s) (e : SameT s s') : Tables s' := by
  obtain ⟨e1, e2, e3, e4, e5, e6, e7⟩ := e
  constructor
  · rw [e1]; exact h.ndS
  · rw [e2]; exact h.ndR
  · rw [e1, e2]; exact h.keysEq
  · rw [e1, e4]; exact h.freshS
  · rw [e3, e4, e1]; exact h.freshF
  · rw [e5, e1]; exact h.cReady
  · rw [e6, e1]; exact h.cConn
  · rw [e7, e1]; exact h.cTF

/-- `Tables` reads the two tables, the replacement map, the allocation counter and the evaluator: the other fields
    may be anything, and are implicit variables.  (The form for the stages that write only these other fields: `exact
    tables_frame h` unifies the two records once, where every `rfl` of `tables_of_same h ⟨rfl, …⟩` unfolds the stage
    again.) -/
theorem tables_frame {s : St} (h : Tables s) {cfgIn cfg addrs aggr affinity fallback refs rr picker failN scAddrs removed
    published now calls waiters held} :
    Tables { s with cfgIn, cfg, addrs, aggr, affinity, fallback, refs, rr, picker, failN, scAddrs, removed, published, now,
                    calls, waiters, held } :=
  tables_of_same h ⟨rfl, rfl, rfl, rfl, rfl, rfl, rfl⟩

/-- the constructor with the seven components as variables, for the updates that write some of them: the update is
    unified with the record once, and each hypothesis speaks of the component written.  (With `⟨…⟩` each field is stated
    about a projection of the update, `(s.recorded sc oldS st).nReady = …`; given such a projection and a term it can
    also unfold, the unifier unfolds the term first.) -/
theorem tables_mk {scStates : List (Sc × CState)} {scRefs refreshingMap : List (Sc × Slot)} {nextSc nReady nConn nTF : Nat}
    (ndS : (keys scStates).Nodup) (ndR : (keys scRefs).Nodup) (keysEq : ∀ sc, sc ∈ keys scStates ↔ sc ∈ keys scRefs)
    (freshS : ∀ sc ∈ keys scStates, sc < nextSc) (freshF : ∀ sc ∈ keys refreshingMap, sc < nextSc ∧ sc ∉ keys scStates)
    (cReady : nReady = countState scStates .ready) (cConn : nConn = countState scStates .connecting)
    (cTF : nTF = countState scStates .tf)
    {cfgIn cfg addrs aggr affinity fallback refs rr picker failN scAddrs removed published now calls waiters held} :
    Tables { cfgIn, cfg, addrs, nReady, nConn, nTF, aggr, affinity, fallback, scStates, scRefs, refs, rr, refreshingMap, picker,
             nextSc, failN, scAddrs, removed, published, now, calls, waiters, held } :=
  ⟨ndS, ndR, keysEq, freshS, freshF, cReady, cConn, cTF⟩

theorem SameT.of_eq {s s' : St} (h1 : s'.scStates = s.scStates) (h2 : s'.scRefs = s.scRefs)
    (h3 : s'.refreshingMap = s.refreshingMap) (h4 : s'.nextSc = s.nextSc) (h5 : s'.nReady = s.nReady)
    (h6 : s'.nConn = s.nConn) (h7 : s'.nTF = s.nTF) : SameT s s' := ⟨h1, h2, h3, h4, h5, h6, h7⟩

theorem unbind_sameT' (s : St) (k : String) : SameT s (unbindSubConn s k) := by
  rw [unbindSubConn_rebound]; exact ⟨rfl, rfl, rfl, rfl, rfl, rfl, rfl⟩

theorem Tables.fresh {s : St} (t : Tables s) : s.nextSc ∉ keys s.scStates :=
  fun h => Nat.lt_irrefl _ (t.freshS _ h)

theorem fresh_not_key {s : St} (t : Tables s) : s.nextSc ∉ keys s.scRefs :=
  fun h => t.fresh ((t.keysEq _).mpr h)

theorem Tables.rep_not_key {s : St} (t : Tables s) {sc : Sc} (h : sc ∈ keys s.refreshingMap) : sc ∉ keys s.scRefs :=
  fun hk => (t.freshF sc h).2 ((t.keysEq sc).mpr hk)

theorem tables_addConn {s : St} (h : Tables s) : Tables s.addConn := by
  refine tables_mk (nodup_insert h.ndS _ _) (nodup_insert h.ndR _ _) (fun x => ?_) (fun x hx => ?_) (fun x hx => ?_)
    (h.cReady.trans (countState_insert_fresh h.fresh .idle .ready).symm)
    (h.cConn.trans (countState_insert_fresh h.fresh .idle .connecting).symm)
    (h.cTF.trans (countState_insert_fresh h.fresh .idle .tf).symm)
  · rw [mem_keys_insert, mem_keys_insert, h.keysEq]
  · rcases mem_keys_insert.mp hx with hx | hx
    · exact hx ▸ Nat.lt_succ_self _
    · exact Nat.lt_succ_of_lt (h.freshS x hx)
  · -- a replacement id is below the allocation counter, the new id equals it
    have hf := h.freshF x hx
    exact ⟨Nat.lt_succ_of_lt hf.1,
      fun hm => (mem_keys_insert.mp hm).elim (fun e => Nat.lt_irrefl _ (e ▸ hf.1)) hf.2⟩

theorem length_addConn {s : St} (t : Tables s) : s.addConn.scRefs.length = s.scRefs.length + 1 :=
  length_insert_fresh (fresh_not_key t) _

theorem tables_startRefresh {s : St} (h : Tables s) (slot : Slot) : Tables (s.startRefresh slot) := by
  refine tables_mk h.ndS h.ndR h.keysEq (fun x hx => Nat.lt_succ_of_lt (h.freshS x hx)) (fun x hx => ?_) h.cReady h.cConn h.cTF
  rcases mem_keys_insert.mp hx with hx | hx
  · rw [hx]; exact ⟨Nat.lt_succ_self _, h.fresh⟩
  · exact ⟨Nat.lt_succ_of_lt (h.freshF x hx).1, (h.freshF x hx).2⟩

/-- the swap leaves the number of connections in a counted state as it is: the replacement takes over the
    old connection's state, or — the old connection gone — enters as IDLE, which no counter counts -/
theorem countState_swapped {l : List (Sc × CState)} (hnd : (keys l).Nodup) (old : Sc) {sc : Sc} (hsc : sc ∉ keys l)
    {x : CState} (hx : x ≠ .idle) :
    countState (insert (erase l old) sc ((lookup l old).getD .idle)) x = countState l x := by
  rw [countState_insert_fresh fun hk => hsc (mem_keys_erase hk)]
  cases hl : lookup l old with
  | some os => exact (countState_erase hnd hl x).symm
  | none =>
    rw [erase_of_not_mem (lookup_eq_none.mp hl)]
    show _ + Bool.toNat (CState.idle == x) = _
    rw [beq_false_of_ne (Ne.symm hx)]; rfl

theorem tables_swapped {s : St} (h : Tables s) {sc : Sc} (hrep : sc ∈ keys s.refreshingMap) (slot : Slot) (old : Sc) :
    Tables (s.swapped sc slot old) := by
  have hsc := h.freshF sc hrep
  have hcount : ∀ x : CState, x ≠ .idle →
      countState (insert (erase s.scStates old) sc ((lookup s.scStates old).getD .idle)) x = countState s.scStates x :=
    fun _ => countState_swapped h.ndS old hsc.2
  refine tables_mk (nodup_insert (nodup_erase h.ndS _) _ _) (nodup_insert (nodup_erase h.ndR _) _ _) (fun x => ?_)
    (fun x hx => ?_) (fun x hx => ?_)
    (h.cReady.trans (hcount .ready nofun).symm) (h.cConn.trans (hcount .connecting nofun).symm)
    (h.cTF.trans (hcount .tf nofun).symm)
  · rw [mem_keys_insert_erase, mem_keys_insert_erase, h.keysEq]
  · rcases mem_keys_insert_erase.mp hx with hx | hx
    · exact hx ▸ hsc.1
    · exact h.freshS x hx.1
  · have hx' : x ∈ keys s.refreshingMap ∧ x ≠ sc := mem_keys_erase_iff.mp hx
    exact ⟨(h.freshF x hx'.1).1,
      fun hm => (mem_keys_insert_erase.mp hm).elim hx'.2 fun hm => (h.freshF x hx'.1).2 hm.1⟩

/-- one evaluator counter across a transition: `e` entries of other connections are in state x; the
    decrement is matched by the entry of the reporting connection and does not wrap -/
theorem counter_step (x oldS st : CState) (n e : Nat) (hn : n = e + Bool.toNat (oldS == x)) :
    trans64 oldS st x n = e + Bool.toNat (st == x) := by
  subst hn
  unfold trans64
  cases oldS == x <;> cases st == x <;> rfl

theorem tables_recorded {s : St} (h : Tables s) {sc : Sc} {oldS : CState} (hold : stateOf s sc = some oldS) (st : CState) :
    Tables (s.recorded sc oldS st) := by
  have hl : lookup s.scStates sc = some oldS := hold
  -- each counter: the entries of the other connections, plus this one's before and after
  have hstep : ∀ x n, n = countState s.scStates x →
      trans64 oldS st x n = countState (erase s.scStates sc) x + Bool.toNat (st == x) :=
    fun x n hn => counter_step x oldS st n _ (hn.trans (countState_erase h.ndS hl x))
  unfold St.recorded
  by_cases hsd : st = .shutdown
  · -- Shutdown (no counter counts it): the connection leaves both tables
    rw [if_pos hsd, if_pos hsd]
    subst hsd
    refine tables_mk (nodup_erase h.ndS _) (nodup_erase h.ndR _) (fun x => ?_) (fun x hx => h.freshS x (mem_keys_erase hx))
      (fun x hx => ⟨(h.freshF x hx).1, fun hm => (h.freshF x hx).2 (mem_keys_erase hm)⟩)
      (hstep _ _ h.cReady) (hstep _ _ h.cConn) (hstep _ _ h.cTF)
    rw [mem_keys_erase_iff, mem_keys_erase_iff, h.keysEq]
  · -- any other state: the entry is overwritten in place
    rw [if_neg hsd, if_neg hsd]
    have hk : keys (insert s.scStates sc st) = keys s.scStates := keys_insert_of_mem (mem_keys_of_lookup hl) st
    have hcount : ∀ x, countState (erase s.scStates sc) x + Bool.toNat (st == x) = countState (insert s.scStates sc st) x :=
      fun x => (countState_insert h.ndS sc st x).symm
    exact tables_mk (hk ▸ h.ndS) h.ndR (fun x => by rw [hk]; exact h.keysEq x) (fun x hx => h.freshS x (hk ▸ hx))
      (fun x hx => ⟨(h.freshF x hx).1, fun hm => (h.freshF x hx).2 (hk ▸ hm)⟩)
      ((hstep _ _ h.cReady).trans (hcount _)) ((hstep _ _ h.cConn).trans (hcount _)) ((hstep _ _ h.cTF).trans (hcount _))

theorem tables_stage {s0 s s' : St} {op : Op} (st : Stage s0 op s s') (h : Tables s) : Tables s' := by
  cases st with
  | addConn => exact tables_addConn h
  | startRefresh _ _ _ slot => exact tables_startRefresh h slot
  | swap sc _ slot r hl => exact tables_swapped h (mem_keys_of_lookup hl) slot r.subConn
  | record sc st _ oldS hst => exact tables_recorded h hst st
  | publish sc st order oldS hst => exact tables_frame (tables_recorded h hst st)
  | _ => exact tables_frame h

theorem tables_init (ci : CfgInput) : Tables (init ci) :=
  ⟨List.nodup_nil, List.nodup_nil, fun _ => Iff.rfl, nofun, nofun, rfl, rfl, rfl⟩

theorem tables_run (ci : CfgInput) (ops : List Op) : Tables (run (init ci) ops) :=
  run_stages ci (tables_init ci) tables_stage ops

/-- **C04.1** after every history the evaluator counters equal the number of pool connections in
    each state: no uint64 decrement is ever unmatched -/
theorem counters_exact (ci : CfgInput) (ops : List Op) :
    countersExact (run (init ci) ops).scStates (run (init ci) ops).nReady (run (init ci) ops).nConn
      (run (init ci) ops).nTF = true := by
  have h := tables_run ci ops
  simp [countersExact, h.cReady, h.cConn, h.cTF]

/-- **C04.2 / C05** the state table and the slot table always describe the same connections (so the
    ready list of a new picker never contains a missing slot), and replacement connections of an
    unfinished refresh are in neither -/
theorem pool_connections_only (ci : CfgInput) (ops : List Op) :
    (∀ sc, sc ∈ keys (run (init ci) ops).scStates ↔ sc ∈ keys (run (init ci) ops).scRefs) ∧
    (∀ sc ∈ keys (run (init ci) ops).refreshingMap, sc ∉ keys (run (init ci) ops).scStates) ∧
    (keys (run (init ci) ops).scStates).Nodup ∧ (keys (run (init ci) ops).scRefs).Nodup := by
  have h := tables_run ci ops
  exact ⟨h.keysEq, fun sc hsc => (h.freshF sc hsc).2, h.ndS, h.ndR⟩

theorem run_with_tables {X : St → Prop} (h0 : ∀ ci, X (init ci))
    (hs : ∀ {s0 s s' : St} {op : Op}, Stage s0 op s s' → Tables s → X s → X s') (ci : CfgInput) (ops : List Op) :
    X (run (init ci) ops) :=
  (run_stages ci (P := fun s => Tables s ∧ X s) ⟨tables_init ci, h0 ci⟩
    (fun st h => ⟨tables_stage st h.1, hs st h.1 h.2⟩) ops).2

end GcpVerif.Pool
