/-
C03, the initial size.  Whatever precedes the first resolver update with a non-empty address list
(state reports for unknown connections, picks on pickers that do not exist, completions of calls
that were never placed, clock advances, factory settings, resolver updates without addresses), the
balancer has created nothing by then (`Bare`); that update, with a working factory, leaves exactly
`max(1, minSize)` connections (that each carries the new address list is C20, `addrs_current`).
-/
import GcpVerif.Proofs.PoolTables
namespace GcpVerif.Pool

theorem wake_no_waiters {s : St} (h : s.waiters = []) : wakeWaiters s = (s, []) := by
  unfold wakeWaiters; rw [h]; rfl

theorem enforce_noaddrs {s : St} (ha : s.addrs = 0) (min fuel : Nat) : (enforceMinSize s min fuel).1 = s := by
  cases fuel with
  | zero => rfl
  | succ fuel =>
    unfold enforceMinSize
    split
    · rw [addSubConn_noaddrs ha]
    · rfl

theorem ccsConfigure_some {s : St} {c : Cfg} (hc : s.cfg = some c) : ccsConfigure s = (s, []) := by
  simp only [ccsConfigure, hc]

theorem ccsConfigure_none {s : St} (hc : s.cfg = none) :
    ccsConfigure s =
      enforceMinSize { s with cfg := some (initialCfg s.cfgIn) } (initialCfg s.cfgIn).min (initialCfg s.cfgIn).min := by
  simp only [ccsConfigure, hc]

/-- no connection exists yet, no picker was published, nothing is in flight; the configuration may
    already have been fixed by an earlier resolver update whose address list was empty -/
structure Bare (ci : CfgInput) (s : St) : Prop where
  cin : s.cfgIn = ci
  cfg : s.cfg = none ∨ s.cfg = some (initialCfg ci)
  scRefs : s.scRefs = []
  scStates : s.scStates = []
  refs : s.refs = []
  rmap : s.refreshingMap = []
  calls : s.calls = []
  waiters : s.waiters = []
  published : s.published = []
  held : s.held = []

/-- operations before the first resolver update that carries addresses -/
def noAddrs : Op → Prop
  | .ccs v => v = 0
  | _ => True

theorem bare_init (ci : CfgInput) : Bare ci (init ci) :=
  ⟨rfl, Or.inl rfl, rfl, rfl, rfl, rfl, rfl, rfl, rfl, rfl⟩

/-- no resolver update has been delivered yet -/
structure Pristine (ci : CfgInput) (s : St) : Prop where
  cin : s.cfgIn = ci
  cfg : s.cfg = none
  scRefs : s.scRefs = []
  scStates : s.scStates = []
  refs : s.refs = []
  rmap : s.refreshingMap = []
  calls : s.calls = []
  waiters : s.waiters = []
  published : s.published = []
  held : s.held = []

def notCcs : Op → Prop
  | .ccs _ => False
  | _ => True

theorem noAddrs_of_notCcs {op : Op} (h : notCcs op) : noAddrs op := by
  cases op with
  | ccs _ => exact h.elim
  | _ => trivial

theorem bare_frame {ci : CfgInput} {s : St} (h : Bare ci s) {cfg : Option Cfg} (hc : cfg = none ∨ cfg = some (initialCfg ci))
    {refs : List RefSt} (hr : refs = []) {addrs nReady nConn nTF aggr affinity fallback rr picker nextSc failN scAddrs removed now} :
    Bare ci { s with addrs, nReady, nConn, nTF, aggr, affinity, fallback, rr, picker, nextSc, failN, scAddrs, removed, now, cfg,
                     refs } :=
  ⟨h.cin, hc, h.scRefs, h.scStates, hr, h.rmap, h.calls, h.waiters, h.published, h.held⟩

/-- With every table empty and no address to connect to, a stage has nothing to work on: only the
    bookkeeping of a resolver update, the clock, the factory and the cursor move. -/
theorem bare_stage {ci : CfgInput} {s0 s s' : St} {op : Op} (st : Stage s0 op s s') (hop : noAddrs op)
    (h0 : Bare ci s0) (h : Bare ci s) (ha : s.addrs = 0) :
    (Bare ci s' ∧ s'.addrs = 0) ∧ (notCcs op → s'.cfg = s.cfg) := by
  have noRef : ∀ {slot : Slot} {r : RefSt}, getRef s slot ≠ some r := by
    intro slot r; unfold getRef; rw [h.refs]; exact nofun
  cases st with
  | setAddrs v => exact ⟨⟨bare_frame h h.cfg h.refs, hop⟩, False.elim⟩
  | setCfg v => exact ⟨⟨bare_frame h (.inr (congrArg (fun x => some (initialCfg x)) h.cin)) h.refs, ha⟩, False.elim⟩
  | detReset _ _ _ slot | deInc _ _ _ slot =>
    exact ⟨⟨bare_frame h h.cfg (by rw [h.refs]; exact List.modify_nil ..), ha⟩, fun _ => rfl⟩
  | addConn c _ _ hne => exact absurd ha hne
  | hold call pn m ctx dl req hw => simp [wouldGrow, h.published] at hw
  | release call x hx => rw [h.held] at hx; cases hx
  | addWaiter w _ hlt => rw [h.refs] at hlt; cases hlt
  | ctxDone w r hw | dropWaiter w hw => rw [h.waiters] at hw; cases hw
  | completeCall call err reply hm | unbind call reply hm => rw [h0.calls] at hm; cases hm
  | swap sc order slot r hl => rw [h.rmap] at hl; cases hl
  | record sc st order oldS hst | publish sc st order oldS hst => unfold stateOf at hst; rw [h.scStates] at hst; cases hst
  | setFallback c key sc l slot r _ _ _ _ _ _ hg => exact absurd hg noRef
  | place c r hg | wake w r hg | startRefresh _ _ _ slot r hg | bindAll call reply keys r _ _ hg => exact absurd hg noRef
  | _ => exact ⟨⟨bare_frame h h.cfg h.refs, ha⟩, fun _ => rfl⟩

theorem bare_step {ci : CfgInput} {s : St} {op : Op} (hop : noAddrs op) (h : Bare ci s ∧ s.addrs = 0) :
    (Bare ci (step s op).1 ∧ (step s op).1.addrs = 0) ∧ (notCcs op → (step s op).1.cfg = s.cfg) :=
  step_induct (P := fun t => (Bare ci t ∧ t.addrs = 0) ∧ (notCcs op → t.cfg = s.cfg)) op
    (fun st ht => have r := bare_stage st hop h.1 ht.1.1 ht.1.2; ⟨r.1, fun hn => (r.2 hn).trans (ht.2 hn)⟩)
    ⟨h, fun _ => rfl⟩

theorem bare_run (ci : CfgInput) (ops : List Op) (hall : ∀ op ∈ ops, noAddrs op) : Bare ci (run (init ci) ops) :=
  (run_induct_mem (P := fun s => Bare ci s ∧ s.addrs = 0) (fun _ _ hop h => (bare_step hop h).1) ops _ hall
    ⟨bare_init ci, rfl⟩).1

theorem pristine_run (ci : CfgInput) (ops : List Op) (hall : ∀ op ∈ ops, notCcs op) : Pristine ci (run (init ci) ops) :=
  have ⟨⟨h, _⟩, hc⟩ := run_induct_mem (P := fun s => (Bare ci s ∧ s.addrs = 0) ∧ s.cfg = none)
    (fun _ _ hop h => have r := bare_step (noAddrs_of_notCcs hop) h.1; ⟨r.1, (r.2 hop).trans h.2⟩) ops _ hall
    ⟨⟨bare_init ci, rfl⟩, rfl⟩
  ⟨h.cin, hc, h.scRefs, h.scStates, h.refs, h.rmap, h.calls, h.waiters, h.published, h.held⟩

theorem enforce_len (min : Nat) : ∀ (fuel : Nat) (s : St), Tables s → s.addrs ≠ 0 → s.failN = 0 →
    min ≤ s.scRefs.length + fuel →
    (enforceMinSize s min fuel).1.scRefs.length = max s.scRefs.length min := by
  intro fuel
  induction fuel with
  | zero => exact fun _ _ _ _ hle => (Nat.max_eq_left hle).symm
  | succ fuel ih =>
    intro s t ha hf hle
    unfold enforceMinSize
    by_cases hlt : s.scRefs.length < min
    · rw [if_pos hlt, addSubConn_ok ha hf]
      refine (ih s.addConn (tables_addConn t) ha hf ?_).trans ?_
      · rw [length_addConn t, Nat.add_right_comm]; exact hle
      · rw [length_addConn t, Nat.max_eq_right hlt, Nat.max_eq_right (Nat.le_of_lt hlt)]
    · rw [if_neg hlt]
      exact (Nat.max_eq_left (Nat.le_of_not_lt hlt)).symm

theorem initialCfg_min (ci : CfgInput) :
    (initialCfg ci).min = match ci with
      | .given c => max 1 c.min
      | .absent => 1 := by
  cases ci with
  | given c =>
    show (if c.min == 0 then 1 else c.min) = max 1 c.min
    cases c.min with
    | zero => rfl
    | succ n => exact (Nat.max_eq_right (Nat.succ_pos n)).symm
  | absent => rfl

/-- **C03 (F26)** after the first resolver update *with a non-empty address list* (and a factory that
    works) the pool holds exactly `max(1, minSize)` connections — whatever happened before, earlier
    resolver updates with an empty list (whose creation attempts all failed) included -/
theorem initial_size_nonempty (ci : CfgInput) (pre : List Op) (hpre : ∀ op ∈ pre, noAddrs op) (ver : Nat) (hver : ver ≠ 0)
    (hfac : (run (init ci) pre).failN = 0) :
    (step (run (init ci) pre) (.ccs ver)).1.scRefs.length = (initialCfg ci).min ∧ 1 ≤ (initialCfg ci).min := by
  have hb := bare_run ci pre hpre
  have t := tables_run ci pre
  generalize run (init ci) pre = s at hb t hfac
  have hmin1 : 1 ≤ (initialCfg ci).min := by
    rw [initialCfg_min]; cases ci with
    | given c => exact Nat.le_max_left _ _
    | absent => exact Nat.le_refl _
  refine ⟨?_, hmin1⟩
  obtain rfl := hb.cin
  -- the wake-up pass leaves the slot table alone
  refine step_of_core (P := fun t => t.scRefs.length = (initialCfg s.cfgIn).min) _ (fun _ _ _ h => h) ?_
  -- with addresses and a working factory `enforceMinSize` creates the pool from nothing
  have create : ∀ (c : Option Cfg) (a : List (Sc × Nat)) (m : Nat),
      (enforceMinSize { s with addrs := ver, cfg := c, scAddrs := a } m m).1.scRefs.length = m := by
    intro c a m
    rw [enforce_len m m { s with addrs := ver, cfg := c, scAddrs := a } (tables_frame t)
      hver hfac (Nat.le_add_left _ _)]
    show max s.scRefs.length m = m
    rw [hb.scRefs]; exact Nat.zero_max m
  show (opCcs s ver).1.scRefs.length = _
  unfold opCcs
  rcases hb.cfg with hc | hc
  · -- the configuration is still to be fixed: the configure stage creates the pool
    have h1 : (ccsConfigure { s with addrs := ver }).1.scRefs.length = (initialCfg s.cfgIn).min := by
      rw [ccsConfigure_none (by exact hc)]
      exact create _ _ _
    generalize ccsConfigure { s with addrs := ver } = r1 at h1 ⊢
    obtain ⟨s1, ev0⟩ := r1
    simp only [updateAll_fst] at h1 ⊢
    have hne : s1.scRefs.isEmpty = false := by
      cases hs : s1.scRefs with
      | nil => rw [hs] at h1; exact absurd h1.symm (Nat.ne_of_gt hmin1)
      | cons _ _ => rfl
    simp only [hne, Bool.false_eq_true, ↓reduceIte]
    exact h1
  · -- the configuration was fixed by an earlier update without addresses: the empty pool is created now
    rw [ccsConfigure_some (by exact hc)]
    have he : s.scRefs.isEmpty = true := by rw [hb.scRefs]; rfl
    simp only [updateAll_fst, he, ↓reduceIte, hc]
    exact create _ _ _

/-- **C03** a first resolver update with a non-empty address list (and a factory that works) leaves
    exactly `max(1, minSize)` connections — whatever happened before it: `initial_size_nonempty` for a
    history without resolver updates -/
theorem initial_size (ci : CfgInput) (pre : List Op) (hpre : ∀ op ∈ pre, notCcs op) (ver : Nat) (hver : ver ≠ 0)
    (hfac : (run (init ci) pre).failN = 0) :
    (step (run (init ci) pre) (.ccs ver)).1.scRefs.length = (initialCfg ci).min ∧
    1 ≤ (initialCfg ci).min :=
  initial_size_nonempty ci pre (fun op hop => noAddrs_of_notCcs (hpre op hop)) ver hver hfac

/-- the premises are satisfiable: the default configuration, some noise before the first update -/
example : (step (run (init .absent) [.adv 5, .scs 3 .ready [], .reserr]) (.ccs 1)).1.scRefs.length = 1 := by
  decide +kernel

/-- the case of F26: minSize 3, a first update without addresses, then one with -/
example : (step (run (init (.given { min := 3, max := 4, wm := 100, fb := false, rr := false, uc := 0, ums := 0, methods := true }))
    [.ccs 0, .reserr, .ccs 0]) (.ccs 1)).1.scRefs.length = 3 := by decide +kernel

end GcpVerif.Pool
