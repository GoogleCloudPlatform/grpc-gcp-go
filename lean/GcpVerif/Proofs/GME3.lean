/-
C15 — "every MultiEndpoint already reflects the connectivity of the pools when UpdateMultiEndpoints
returns": after an accepted update, in every MultiEndpoint (kept, re-configured or new) an endpoint
counts as available exactly when its pool was READY in the status sync at the end of the call —
whatever the MultiEndpoint believed before, and whatever switching delay it has.
-/
import GcpVerif.Proofs.GME2
import GcpVerif.Proofs.ME6
namespace GcpVerif.GME

theorem fold_sync_status (r : String → Bool) (l : List String) : ∀ (done : List String) (me : ME.St), ME.Reach me →
    (∀ ep ∈ me.eps, ep.id ∈ done → (ep.status = .available ↔ r ep.id = true)) →
    ∀ ep ∈ (l.foldl (fun m e => ME.opSetAvail m e (r e)) me).eps, ep.id ∈ done ++ l →
      (ep.status = .available ↔ r ep.id = true) := by
  intro done me hreach h
  refine (tellOwn_ind (P := fun told m => ME.Reach m ∧
    ∀ ep ∈ m.eps, ep.id ∈ done ++ told → (ep.status = .available ↔ r ep.id = true)) r l ?_
    ⟨hreach, fun ep hep hid => h ep hep (by rwa [List.append_nil] at hid)⟩).2
  intro told e _ m _ ⟨hm, hs⟩
  refine ⟨ME.reach_opSetAvail e (r e) hm, fun y hy hyd => ?_⟩
  have hy' : y ∈ (ME.setEndpointAvailability m e (r e)).eps := ME.muc_eps (ME.setEndpointAvailability m e (r e)) ▸ hy
  obtain ⟨x, hx, e1, e2, e3⟩ := ME.sea_av (ME.reach_inv hm).idInj e (r e) y hy'
  by_cases hxe : x.id = e
  · rw [e2 hxe, e1, hxe]
  · rw [e3 hxe, e1]
    rw [e1, ← List.append_assoc, List.mem_append, List.mem_singleton] at hyd
    exact hs x hx (hyd.resolve_right hxe)

/-- **C15** when an accepted UpdateMultiEndpoints returns, every MultiEndpoint reflects the connectivity
    of the pools: an endpoint is available there exactly when its pool was READY in the final status
    sync (`connReady`), for every switching delay `dl` -/
theorem update_syncs_status {s : St} (h : G s) (d : String) (o : Opts) (f : List String) (r : String → Bool)
    (dl : Int) (hok : (update s d o f r dl).2 = true) :
    ∀ p ∈ (update s d o f r dl).1.mes, ∀ ep ∈ p.2.eps, (ep.status = .available ↔ r ep.id = true) := by
  obtain ⟨heq, -, hall⟩ := update_accepted hok
  rw [heq]
  intro p hp ep hep
  obtain ⟨l, me0, _, _, hreach, hp2, hsub⟩ := new_mes_spec h d dl o r hall p hp
  -- every endpoint of the MultiEndpoint is named in its own list, so the status sync tells it
  have hin : ep.id ∈ l := hsub ep hep
  rw [hp2] at hep
  exact fold_sync_status r l [] me0 hreach (fun _ _ hh => by cases hh) ep hep (by simpa using hin)

/-- the same for every state reachable through the API -/
theorem update_syncs_status_reach {s : St} (h : Reach s) (d : String) (o : Opts) (f : List String)
    (r : String → Bool) (dl : Int) (hok : (update s d o f r dl).2 = true) :
    ∀ p ∈ (update s d o f r dl).1.mes, ∀ ep ∈ p.2.eps, (ep.status = .available ↔ r ep.id = true) :=
  update_syncs_status (reach_g h) d o f r dl hok

end GcpVerif.GME
