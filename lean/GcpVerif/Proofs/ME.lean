/-
C13 / C14 — property theorems about the MultiEndpoint model.

Every theorem has the form: for every state reachable from `NewMultiEndpoint` (any endpoint list,
any `0 ≤ r`, `0 ≤ d`) through any finite sequence of operations (reports, list replacements, clock
advances, timer firings in any order, including timers that were stopped after they became due),
and for every next operation, the monitor clause of Spec/ME.lean evaluates to `true`.
The monitor clauses are the same definitions the driver evaluates on the implementation's trace.
-/
import GcpVerif.Proofs.ME2
namespace GcpVerif.ME

theorem c13_mem_of_inv {s : St} (h : Inv s) : c13_mem s = true := by
  obtain ⟨c, hc⟩ := h.curMem
  rw [c13_mem, ids_contains, hc]; rfl

/-- C13.1 `Current()` always names an endpoint of the most recently accepted list. -/
theorem c13_mem_holds {s : St} (h : Reach s) (op : Op) : c13_mem (stepRaw s op).1 = true :=
  c13_mem_of_inv (inv_step (reach_inv h) op)

/-- C13.1 also holds right after construction. -/
theorem c13_mem_init {r d : Int} {l : List String} {s : St} (hr : 0 ≤ r) (hd : 0 ≤ d)
    (h : initRaw r d l = some s) : c13_mem s = true :=
  c13_mem_of_inv (inv_init hr hd h)

/-- C13.2 when the triggering call returns, a current endpoint that is known to be unavailable
    coexists with no available endpoint. -/
theorem c13_unavail_excluded_holds {s : St} (h : Reach s) (op : Op) :
    c13_unavail_excluded (stepRaw s op).1 = true := by
  have hi := inv_step (reach_inv h) op
  unfold c13_unavail_excluded
  cases hc : findEp (stepRaw s op).1.eps (stepRaw s op).1.current with
  | none => rfl
  | some c =>
    dsimp only
    rw [ite_eq_right_iff, Bool.not_eq_true', anyAvail_eq_false]
    exact fun hu => hi.m5 c hc (beq_iff_eq.mp hu)

/-- C13.6 an empty endpoint list is rejected and changes nothing; a non-empty one is accepted. -/
theorem c13_empty_holds (s : St) (op : Op) :
    c13_empty s op (stepRaw s op).2 (stepRaw s op).1 = true := by
  cases op with
  | setEndpoints l =>
    cases l with
    | nil => simp [c13_empty, stepRaw, opSetEndpoints, obsEq]
    | cons x xs => rfl
  | _ => rfl

/-! ### where `current` goes in one step: `current_after`, then a fact about the table -/

/-- C13.4 if no endpoint is available after an operation, `current` is unchanged, unless it was
    removed from the list — then it is the list's top-priority endpoint. -/
theorem c13_noavail_holds {s : St} (h : Reach s) (op : Op) :
    c13_noavail s (stepRaw s op).1 = true := by
  have hp := inv_step (reach_inv h) op
  obtain ⟨d, hA, -⟩ := current_after h op
  unfold c13_noavail
  rw [ite_eq_left_iff, Bool.not_eq_true]
  intro hna
  rw [hA, nextCur_noavail hna]
  by_cases hcon : (ids (stepRaw s op).1.eps).contains s.current = true
  · rw [if_pos hcon, if_pos hcon]
    exact beq_iff_eq.mpr rfl
  · rw [if_neg hcon]
    cases hto : topOf (stepRaw s op).1.eps with
    | none => exact absurd (topOf_eq_none.mp hto) hp.nonempty
    | some t =>
      dsimp only
      rw [if_neg hcon]
      exact beq_iff_eq.mpr rfl

/-- C14.2 a recovering current endpoint stays current as long as no higher-priority endpoint is
    available (the only ways out are its own recovery timer making it unavailable, or removal). -/
theorem c14_stays_holds {s : St} (h : Reach s) (op : Op) :
    c14_stays s (stepRaw s op).1 = true := by
  have hp := inv_step (reach_inv h) op
  unfold c14_stays
  cases hc : findEp (stepRaw s op).1.eps s.current with
  | none => rfl
  | some c =>
    dsimp only
    rw [ite_eq_right_iff, Bool.and_eq_true, beq_iff_eq, Bool.not_eq_true', beq_iff_eq]
    intro hcond
    obtain ⟨d, hA, -⟩ := current_after h op
    rw [hA]; exact nextCur_stays hp.idInj hp.prioInj hc hcond.1 hcond.2

/-- C14.5 with a switching delay, no report and no list replacement moves `current` away from an
    endpoint that is still in the list and available or recovering, inside that very call. -/
theorem c14_no_preempt_holds {s : St} (h : Reach s) (op : Op) :
    c14_no_preempt s op (stepRaw s op).1 = true := by
  unfold c14_no_preempt
  rw [ite_eq_right_iff, Bool.and_eq_true, bne_iff_ne]
  intro ⟨hapi, hd⟩
  cases hc : findEp (stepRaw s op).1.eps s.current with
  | none => rfl
  | some c =>
    dsimp only
    rw [ite_eq_right_iff, bne_iff_ne, beq_iff_eq]
    intro hst
    obtain ⟨d', hA, rfl | ⟨-, tid, rfl⟩⟩ := current_after h op
    · rw [hA]; exact nextCur_no_preempt hd hc hst
    · cases hapi

/-- C14.6 `current` never moves from an endpoint that is available to a lower-priority one. -/
theorem c14_no_downgrade_holds {s : St} (h : Reach s) (op : Op) :
    c14_no_downgrade s (stepRaw s op).1 = true := by
  have hp := inv_step (reach_inv h) op
  unfold c14_no_downgrade
  rw [ite_eq_right_iff, bne_iff_ne]
  intro hne
  cases hc : findEp (stepRaw s op).1.eps s.current with
  | none => rfl
  | some c =>
    cases hn : findEp (stepRaw s op).1.eps (stepRaw s op).1.current with
    | none => rfl
    | some n =>
      dsimp only
      rw [ite_eq_right_iff, beq_iff_eq, decide_eq_true_eq]
      intro hav
      obtain ⟨d, hA, -⟩ := current_after h op
      rw [hA] at hne hn
      exact nextCur_no_downgrade hp.idInj hp.prioInj hne.symm hc hav hn

/-- only a timer that is due can fire (so a recovery window lasts the full timeout) -/
theorem c14_fire_due_holds (s : St) (op : Op) : c14_fire_due s op (stepRaw s op).2 = true := by
  cases op with
  | fire tid =>
    simp only [c14_fire_due, stepRaw, opFire]
    cases hfind : s.timers.find? (fun t => t.tid == tid) with
    | none => rfl
    | some t =>
      simp only
      -- the outcome is `ok` only past `canFire`, which is the clause's own test
      cases hcan : canFire s.now t with
      | false => rfl
      | true => cases t.kind <;> exact hcan
  | _ => rfl

/-- a reachable state with a recovering, protected current endpoint and an available
    lower-priority endpoint (the premise of C14.2), checked by evaluation -/
example :
    let s := runRaw ((initRaw 20 40 ["a", "b"]).get (by decide)) [.setAvail "a" true, .setAvail "b" true, .setAvail "a" false]
    (findEp s.eps s.current).map (·.status) = some .recovering ∧ anyAvail s.eps = true ∧ s.current = "a" := by
  decide

end GcpVerif.ME
