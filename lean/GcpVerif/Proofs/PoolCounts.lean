/-
Counting the connection-state table (`countState`) and its `aggregate`, for C04.
-/
import GcpVerif.Proofs.AList
import GcpVerif.Spec.Pool
namespace GcpVerif.Pool

theorem countState_nil (x : CState) : countState [] x = 0 := rfl

theorem countState_cons (p : Sc × CState) (l : List (Sc × CState)) (x : CState) :
    countState (p :: l) x = Bool.toNat (p.2 == x) + countState l x := by
  unfold countState Bool.toNat
  rw [List.filter_cons]
  cases p.2 == x
  · exact (Nat.zero_add _).symm
  · exact Nat.add_comm _ 1

theorem countState_append (a b : List (Sc × CState)) (x : CState) :
    countState (a ++ b) x = countState a x + countState b x := by
  unfold countState
  rw [List.filter_append, List.length_append]

theorem countState_erase {l : List (Sc × CState)} (hnd : (keys l).Nodup) {k : Sc} {old : CState}
    (h : lookup l k = some old) (x : CState) :
    countState l x = countState (erase l k) x + Bool.toNat (old == x) := by
  rw [show countState l x = countState (erase l k ++ [(k, old)]) x from
    ((perm_erase_append hnd h).filter _).length_eq, countState_append, countState_cons, countState_nil]
  rfl

theorem countState_insert_fresh {l : List (Sc × CState)} {k : Sc} (h : k ∉ keys l) (v x : CState) :
    countState (insert l k v) x = countState l x + Bool.toNat (v == x) := by
  rw [insert_of_not_mem h, countState_append, countState_cons, countState_nil]
  rfl

theorem countState_insert {l : List (Sc × CState)} (hnd : (keys l).Nodup) (k : Sc) (v x : CState) :
    countState (insert l k v) x = countState (erase l k) x + Bool.toNat (v == x) := by
  rw [countState_erase (nodup_insert hnd k v) (lookup_insert_self l k v) x, erase_insert_self]

theorem aggregate_ne_idle (l : List (Sc × CState)) : aggregate l ≠ .idle := by
  unfold aggregate; split
  · simp
  · split <;> simp

theorem aggregate_eq_of {l l' : List (Sc × CState)} (h1 : countState l' .ready = countState l .ready)
    (h2 : (aggregate l' == .tf) = (aggregate l == .tf)) : aggregate l' = aggregate l := by
  unfold aggregate at h2 ⊢
  rw [h1] at h2 ⊢
  by_cases hr : countState l .ready > 0
  · simp only [hr, ↓reduceIte]
  · simp only [hr, ↓reduceIte] at h2 ⊢
    by_cases c' : countState l' .connecting > 0 <;> by_cases c : countState l .connecting > 0 <;>
      simp [c', c] at h2 ⊢

end GcpVerif.Pool
