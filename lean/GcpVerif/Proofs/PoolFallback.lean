/-
C08 at reach level: the stand-in table.

`FbReady`: in every reachable state (no assumption on gRPC's reports) every entry of the temporary
fallback table names a connection that is recorded READY — through refreshes (the entry follows the
slot to the replacement, which takes over at the moment it is READY), state reports (a stand-in that
stops being READY loses its entries in the same step), growth and completions.

Consequence (`fallback_pick_ready`): with fallback_to_ready, a call for a bound key whose home channel
is not READY is placed on a READY channel whenever the current picker lists one (the monitor clause
`fallback_places`), and on the remembered stand-in if there is one (`fallback_sticky`).
-/
import GcpVerif.Proofs.PoolReady
import GcpVerif.Proofs.PoolKeys
namespace GcpVerif.Pool

def FbReady (s : St) : Prop := ∀ p ∈ s.fallback, lookup s.scStates p.2 = some .ready

theorem modRef_fb (s : St) (i : Slot) (f : RefSt → RefSt) :
    (modRef s i f).scStates = s.scStates ∧ (modRef s i f).fallback = s.fallback := ⟨rfl, rfl⟩

theorem fb_addConn {s : St} (t : Tables s) (h : FbReady s) : FbReady s.addConn := by
  intro p hp
  have hp' := h p hp
  have hne : s.nextSc ≠ p.2 := fun e => t.fresh (e ▸ mem_keys_of_lookup hp')
  rw [lookup_addConn_scStates, if_neg hne]
  exact hp'

theorem fb_setFallback {s : St} (h : FbReady s) (key : String) {sc : Sc} (hsc : lookup s.scStates sc = some .ready) :
    FbReady { s with fallback := insert s.fallback key sc } := by
  intro p hp
  rcases mem_insert hp with hp | hp
  · exact h p hp
  · rw [hp]; exact hsc

theorem fb_swapped {s : St} (t : Tables s) (h : FbReady s) {sc : Sc} (hrep : sc ∈ keys s.refreshingMap) (slot : Slot)
    (old : Sc) : FbReady (s.swapped sc slot old) := by
  intro p hp
  obtain ⟨q, hq, rfl⟩ := List.mem_map.mp (show p ∈ repoint s.fallback old sc from hp)
  have hq' := h q hq
  rw [lookup_swapped_scStates]
  by_cases ho : (q.2 == old) = true
  · rw [if_pos ho, if_pos rfl, stateOf, ← beq_iff_eq.mp ho, hq']; rfl
  · have hne : sc ≠ q.2 := fun e => (t.freshF sc hrep).2 (e ▸ mem_keys_of_lookup hq')
    rw [if_neg ho, if_neg hne, if_neg fun e => ho (beq_iff_eq.mpr e.symm)]
    exact hq'

theorem fb_recorded {s : St} (h : FbReady s) {sc : Sc} {oldS : CState} (hs : stateOf s sc = some oldS) (st : CState) :
    FbReady (s.recorded sc oldS st) := by
  intro p hp
  obtain ⟨hp1, hcl⟩ := mem_cleanFallback (show p ∈ (cleanFallback s sc oldS st).fallback from hp)
  have hp' := h p hp1
  show lookup (if st = .shutdown then erase s.scStates sc else insert s.scStates sc st) p.2 = _
  by_cases hpe : sc = p.2
  · have hold : oldS = .ready := Option.some.inj (hs.symm.trans (hpe ▸ hp'))
    have hst : st = .ready := Decidable.byContradiction fun hst => hcl hold hst hpe.symm
    rw [hst, ← hpe, if_neg nofun]
    exact lookup_insert_self _ _ _
  · split
    · rw [lookup_erase_ne _ hpe]; exact hp'
    · rw [lookup_insert_ne _ _ hpe]; exact hp'

theorem fb_frame {s : St} (h : FbReady s) {cfgIn cfg addrs nReady nConn nTF aggr affinity scRefs refs rr refreshingMap picker nextSc
    failN scAddrs removed published now calls waiters held} :
    FbReady { s with cfgIn, cfg, addrs, nReady, nConn, nTF, aggr, affinity, scRefs, refs, rr, refreshingMap, picker, nextSc,
                     failN, scAddrs, removed, published, now, calls, waiters, held } :=
  h

theorem picker_slot {s : St} (t : Tables s) (hh : Half s) (hr : Rdy s) {l : List Slot} (hl : s.picker = .gcp l)
    {slot : Slot} (hm : slot ∈ l) : ∃ r, getRef s slot = some r ∧ lookup s.scStates r.subConn = some .ready := by
  obtain ⟨sc, hs, hj⟩ := (mem_readySlots t).mp ((hr l hl).mem_iff.mp hm)
  obtain ⟨r, hg, hrs⟩ := getRef_of_subAt (hh.refOf sc slot hj)
  exact ⟨r, hg, hrs ▸ hs⟩

theorem picker_slot_ready {s : St} (t : Tables s) (hh : Half s) (hr : Rdy s) {l : List Slot} (hl : s.picker = .gcp l)
    {slot : Slot} (hm : slot ∈ l) {r : RefSt} (hg : getRef s slot = some r) :
    lookup s.scStates r.subConn = some .ready := by
  obtain ⟨r', hg', h⟩ := picker_slot t hh hr hl hm
  rwa [Option.some.inj (hg.symm.trans hg')]

theorem fb_stage {s0 s s' : St} {op : Op} (st : Stage s0 op s s') (d : (Tables s ∧ Half s) ∧ Rdy s) (h : FbReady s) :
    FbReady s' := by
  cases st with
  | addConn => exact fb_addConn d.1.1 h
  | setFallback c key sc l slot r _ _ _ _ hp hlb hg =>
    exact fb_setFallback h key (picker_slot_ready d.1.1 d.1.2 d.2 hp (leastBusy_spec hlb).1 hg)
  | swap sc _ slot r hl => exact fb_swapped d.1.1 h (mem_keys_of_lookup hl) slot r.subConn
  | record sc st _ oldS hst => exact fb_recorded h hst st
  | publish sc st order oldS hst => exact fb_frame (fb_recorded h hst st)
  | _ => exact fb_frame h

theorem fb_init (ci : CfgInput) : FbReady (init ci) := nofun

/-- **C08** in every reachable state every remembered stand-in is a connection recorded READY -/
theorem fbReady_run (ci : CfgInput) (ops : List Op) : FbReady (run (init ci) ops) :=
  (run_stages (P := fun s => ((Tables s ∧ Half s) ∧ Rdy s) ∧ FbReady s) ci
    ⟨⟨⟨tables_init ci, half_init ci⟩, rdy_init ci⟩, fb_init ci⟩
    (fun st h => ⟨thr_stage st h.1, fb_stage st h.1 h.2⟩) ops).2

/-- the same across the model's own functions, wherever they are applied -/
theorem fbStages : Stages fun s s' => ((Tables s ∧ Half s) ∧ Rdy s) → FbReady s → FbReady s' where
  setAddrs s v := fun _ h => h
  setCfg s _ := fun _ h => h
  setFail s n := fun _ h => h
  setNow s n := fun _ h => h
  setRr s := fun _ h => h
  setHeld s hl := fun _ h => h
  addWaiter s w := fun _ h => h
  dropWaiter s id := fun _ h => h
  addSubConn s := fun d h => by
    rcases addSubConn_cases s with e | ⟨_, e⟩ | ⟨_, _, e⟩ <;> rw [e]
    · exact h
    · exact h
    · exact fb_addConn d.1.1 h
  refresh s slot := fun _ h => by
    rcases refresh_fst s slot with e | ⟨_, e⟩ | ⟨r, hg, hr, ha, hf⟩
    · rw [e]; exact h
    · rw [e]; exact h
    · rw [refresh_ok hg hr ha hf]; exact h
  updateAll s scs := fun _ h => by rw [updateAll_fst]; exact h
  place s call slot cmd loc key ctx dl := fun _ h => by
    cases hg : getRef s slot with
    | none => rw [place_none hg]; exact h
    | some r => rw [place_some hg]; exact h
  getReady s c key := fun d h => by
    rcases getReadySubConnRef_cases s c key with ⟨_, _, e, _⟩ | ⟨_, l, slot, r, _, _, _, _, h4, h5, h6, e⟩ <;> rw [e]
    · exact h
    · exact fb_setFallback h key (picker_slot_ready d.1.1 d.1.2 d.2 h4 (leastBusy_spec h5).1 h6)
  completeCall s call _ := fun _ h => h
  detReset s slot := fun _ h => h
  deInc s slot := fun _ h => h
  bindAll s keys slot r _ := fun _ h => by rw [bindAll_rebound]; exact h
  unbind s key := fun _ h => by rw [unbindSubConn_rebound]; exact h
  swap s sc slot hl := fun d h => by
    cases hg : getRef s slot with
    | none => rw [swap_none hg]; exact h
    | some r => rw [swap_some hg]; exact fb_swapped d.1.1 h (mem_keys_of_lookup hl) slot r.subConn
  report s sc oldS st order hs := fun _ h => by
    rw [report_eq, maybePublish_fst]
    split
    · exact fb_frame (fb_recorded h hs st)
    · exact fb_recorded h hs st

/-- **C08 (state level)** fallback_to_ready on, the key is bound, its home connection is not READY,
    the current picker lists at least one channel: a BOUND call for the key — issued on any published
    picker that lists a channel, current or superseded — is placed (it is not told to wait, the pool
    does not grow), the connection it is placed on is recorded READY, and it is the remembered
    stand-in whenever there is one — whatever the load on any channel -/
theorem fallback_pick_ready_of {s : St} (t : Tables s) (hh : Half s) (hr : Rdy s) (hf : FbReady s)
    {c : Cfg} (hc : s.cfg = some c) (hm : c.methods = true) (hfb : c.fb = true)
    (call pn : Nat) (dl : Option Int) (key : String) (ks : List String) (hk : key ≠ "")
    (hfree : (callIdUsed s call || pickerBusy s pn) = false)
    {st : CState} {l : List Slot} (hp : s.published[pn]? = some (st, .gcp l)) (hl : l ≠ [])
    {home : Sc} (hb : lookup s.affinity key = some home) (hnr : isReadySc s home = false)
    {l0 : List Slot} (hcur : s.picker = .gcp l0) (hl0 : l0 ≠ []) :
    ∃ sc', (opPick s call pn "bound" .gcp dl (.msg ⟨key, ks⟩)).2 = [.placed sc'] ∧
      isReadySc s sc' = true ∧ (∀ sb, lookup s.fallback key = some sb → sc' = sb) := by
  cases hfl : lookup s.fallback key with
  | some sb =>
    have hrdy : lookup s.scStates sb = some .ready := hf (key, sb) (lookup_some_mem hfl)
    -- the stand-in is in the pool, so it sits in a slot
    obtain ⟨slot, hls, hsub⟩ := hh.exists_slot ((t.keysEq sb).mp (mem_keys_of_lookup hrdy))
    obtain ⟨r, hg, hrs⟩ := getRef_of_subAt hsub
    refine ⟨sb, ?_, by simp [isReadySc, stateOf, hrdy], fun sb' h' => (Option.some.inj h').symm ▸ rfl⟩
    rw [← hrs]
    exact bound_pick_placed hc hm call pn dl key ks hk hfree hp hl
      ((fallback_sticky hb hnr hfb hfl).trans (by rw [hls])) hg
  | none =>
    cases hlb : leastBusy s l0 with
    | none => exact absurd (leastBusy_eq_none.mp hlb) hl0
    | some slot =>
      obtain ⟨r, hg, hrdy⟩ := picker_slot t hh hr hcur (leastBusy_spec hlb).1
      exact ⟨r.subConn, bound_pick_placed hc hm call pn dl key ks hk hfree hp hl
        (fallback_new hb hnr hfb hfl hcur hlb hg) hg, by simp [isReadySc, stateOf, hrdy], fun sb h' => by cases h'⟩

/-- **C08** … after any history whatsoever (no assumption on gRPC's reports) -/
theorem fallback_pick_ready (ci : CfgInput) (ops : List Op)
    {c : Cfg} (hc : (run (init ci) ops).cfg = some c) (hm : c.methods = true) (hfb : c.fb = true)
    (call pn : Nat) (dl : Option Int) (key : String) (ks : List String) (hk : key ≠ "")
    (hfree : (callIdUsed (run (init ci) ops) call || pickerBusy (run (init ci) ops) pn) = false)
    {st : CState} {l : List Slot} (hp : (run (init ci) ops).published[pn]? = some (st, .gcp l)) (hl : l ≠ [])
    {home : Sc} (hb : lookup (run (init ci) ops).affinity key = some home)
    (hnr : isReadySc (run (init ci) ops) home = false)
    {l0 : List Slot} (hcur : (run (init ci) ops).picker = .gcp l0) (hl0 : l0 ≠ []) :
    ∃ sc', (opPick (run (init ci) ops) call pn "bound" .gcp dl (.msg ⟨key, ks⟩)).2 = [.placed sc'] ∧
      isReadySc (run (init ci) ops) sc' = true ∧
      (∀ sb, lookup (run (init ci) ops).fallback key = some sb → sc' = sb) :=
  fallback_pick_ready_of (th_run ci ops).1 (th_run ci ops).2 (rdy_run ci ops) (fbReady_run ci ops)
    hc hm hfb call pn dl key ks hk hfree hp hl hb hnr hcur hl0

/-- the premises are met by a real history: "k" is bound to connection 0, which then fails while
    connection 1 is READY (the current picker, the third published, lists slot 1 only); a BOUND call for "k" on
    the first picker, superseded, is served by connection 1, and one on the current picker leaves
    connection 1 remembered as the stand-in for "k" -/
def fbCfg : CfgInput := .given { min := 1, max := 2, wm := 1, fb := true, rr := false, uc := 0, ums := 0, methods := true }
def fbOps : List Op :=
  [.ccs 1, .scs 0 .ready [0], .pick 1 0 "bind" .gcp none (.msg ⟨"", []⟩),
   .done 1 .nil ⟨"k", []⟩, .pick 2 0 "plain" .gcp none (.msg ⟨"", []⟩), .pick 3 0 "plain" .gcp none (.msg ⟨"", []⟩),
   .scs 0 .tf [], .scs 1 .ready [1]]
example : lookup (run (init fbCfg) fbOps).affinity "k" = some 0 ∧ isReadySc (run (init fbCfg) fbOps) 0 = false ∧
    (run (init fbCfg) fbOps).picker = .gcp [1] := by decide +kernel
example : (step (run (init fbCfg) fbOps) (.pick 9 0 "bound" .gcp none (.msg ⟨"k", []⟩))).2 = [.placed 1] := by
  decide +kernel
example : lookup (run (init fbCfg) (fbOps ++ [.pick 9 2 "bound" .gcp none (.msg ⟨"k", []⟩)])).fallback "k" = some 1 := by
  decide +kernel

end GcpVerif.Pool
