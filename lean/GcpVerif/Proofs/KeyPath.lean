/-
C11 — theorems about the key-extraction model.
-/
import GcpVerif.Model.KeyPath
namespace GcpVerif.KeyPath

/-- the Go result pair `(keys, err == nil)` read as an optional key list -/
def ok? (r : List String × Bool) : Option (List String) := if r.2 then some r.1 else none

/-- the two-implication form the property is worded in -/
theorem ok?_iff (r : List String × Bool) (o : Option (List String)) :
    ok? r = o ↔ (r.2 = true → o = some r.1) ∧ (r.2 = false → o = none) := by
  obtain ⟨ks, b⟩ := r
  cases b <;> simp [ok?, eq_comm]

theorem loopKeys_eq (f : V → List String × Bool) (g : V → Option (List String))
    (hfg : ∀ x, ok? (f x) = g x) (xs : List V) (acc : List String) :
    ok? (loopKeys f xs acc) = (xs.mapM g).map fun ks => acc ++ ks.flatten := by
  induction xs generalizing acc with
  | nil => simp [loopKeys, ok?]
  | cons x xs ih =>
    rw [loopKeys, List.mapM_cons, ← hfg x]
    cases f x with
    | mk kk ok =>
      cases ok with
      | false => rfl
      | true =>
        rw [ih]
        cases xs.mapM g <;> simp [ok?]

/-- the loop of the Go code computes `mapM` + concatenation, with early exit on the first error -/
theorem loopKeys_spec (f : V → List String × Bool) (g : V → Option (List String))
    (hfg : ∀ x, ((f x).2 = true → g x = some (f x).1) ∧ ((f x).2 = false → g x = none))
    (xs : List V) (acc : List String) :
    ((loopKeys f xs acc).2 = true →
        ∃ ks, xs.mapM g = some ks ∧ (loopKeys f xs acc).1 = acc ++ ks.flatten) ∧
    ((loopKeys f xs acc).2 = false → xs.mapM g = none) := by
  have := (ok?_iff _ _).1 (loopKeys_eq f g (fun x => (ok?_iff _ _).2 (hfg x)) xs acc)
  refine ⟨fun h => ?_, fun h => Option.map_eq_none_iff.1 (this.2 h)⟩
  obtain ⟨ks, hk, e⟩ := Option.map_eq_some_iff.1 (this.1 h)
  exact ⟨ks, hk, e.symm⟩

theorem keys_eq (p : List String) (v : V) : ok? (keysFromMessage v p) = follow p v := by
  induction p generalizing v with
  | nil =>
    rw [keysFromMessage, follow]
    cases deref v <;> rfl
  | cons seg rest ih =>
    rw [keysFromMessage, follow]
    cases deref v with
    | struct fs =>
      simp only
      cases lookupField fs (title seg) with
      | notFound =>
        -- an invalid value is never a string nor a struct: always an error
        cases rest <;> rfl
      | nilEmb => rfl
      | found f =>
        cases f with
        | slice xs => exact (loopKeys_eq _ _ (fun x => ih x) xs []).trans (by simp)
        | _ => exact ih _
    | _ => rfl

/-- C11: the accumulator / early-return implementation equals the declarative reading of
    the path — same keys in the same order on success, and an error exactly when the declarative
    reading has none -/
theorem keys_eq_follow (p : List String) (v : V) :
    ((keysFromMessage v p).2 = true → follow p v = some (keysFromMessage v p).1) ∧
    ((keysFromMessage v p).2 = false → follow p v = none) :=
  (ok?_iff _ _).1 (keys_eq p v)

/-- `getAffinityKeysFromMessage` returns exactly the keys reached by following the dotted path -/
theorem getAffinityKeys_eq_follow (locator : String) (msg : V) :
    getAffinityKeys locator msg = follow (splitDots locator) msg := by
  rw [← keys_eq]; unfold getAffinityKeys ok?
  cases keysFromMessage msg (splitDots locator) with
  | mk ks ok => cases ok <;> rfl

/-! ### corollaries named in the property -/

theorem follow_struct (seg : String) (rest : List String) (fs : List (String × Option V)) :
    follow (seg :: rest) (.struct fs) =
      match lookupField fs (title seg) with
      | .found (.slice xs) => (xs.mapM (follow rest)).map List.flatten
      | .found f => follow rest f
      | _ => none := by
  rw [follow]; rfl

/-- a nil message (nil interface, nil pointer) is an error, for every path -/
theorem nil_is_error (p : List String) : follow p .nilPtr = none ∧ follow p .nilIface = none ∧ follow p .invalid = none := by
  cases p <;> simp [follow, deref]

/-- a nil nested message is an error -/
theorem nil_nested_is_error (fs : List (String × Option V)) (seg : String) (rest : List String)
    (h : lookupField fs (title seg) = .found .nilPtr) : follow (seg :: rest) (.struct fs) = none := by
  rw [follow_struct, h]; exact (nil_is_error rest).1

/-- an empty repeated field contributes no keys (and is not an error) -/
theorem empty_slice_no_keys (fs : List (String × Option V)) (seg : String) (rest : List String)
    (h : lookupField fs (title seg) = .found (.slice [])) : follow (seg :: rest) (.struct fs) = some [] := by
  rw [follow_struct, h]; rfl

/-- a path that names a missing field is an error -/
theorem missing_field_error (fs : List (String × Option V)) (seg : String) (rest : List String)
    (h : lookupField fs (title seg) = .notFound) : follow (seg :: rest) (.struct fs) = none := by
  rw [follow_struct, h]

/-- a path that crosses a value that is not a message is an error -/
theorem non_struct_error (seg : String) (rest : List String) (v : V)
    (h : ∀ fs, deref v ≠ .struct fs) : follow (seg :: rest) v = none := by
  -- the equation of `follow` for the catch-all case is conditional on `h`; `simp` discharges it from the context
  simp only [follow]

/-- a path that ends on a non-string value is an error -/
theorem non_string_leaf_error (v : V) (h : ∀ s, deref v ≠ .str s) : follow [] v = none := by
  simp only [follow]

/-- a string leaf is returned as it is -/
theorem string_leaf (s : String) : follow [] (.str s) = some [s] ∧ follow [] (.ptr (.str s)) = some [s] := by
  simp [follow, deref]

/-- keys of a repeated field come out in element order -/
theorem slice_in_order (fs : List (String × Option V)) (seg : String) (a b : String)
    (h : lookupField fs (title seg) = .found (.slice [.str a, .str b])) :
    follow [seg] (.struct fs) = some [a, b] := by
  rw [follow_struct, h]; rfl

/-- `strings.Split` never yields an empty path: the "empty locator" branch of the Go code is dead -/
theorem splitChars_nonempty (sep : Char) (l : List Char) : splitChars sep l ≠ [] := by
  cases l with
  | nil => simp [splitChars]
  | cons c cs =>
    simp only [splitChars]
    split
    · simp
    · split <;> simp

theorem split_nonempty (locator : String) : splitDots locator ≠ [] := by
  simp [splitDots, splitChars_nonempty]

/-! ### non-vacuity: a nested message with a repeated field (test, by evaluation) -/
example :
    keysFromMessage (.ptr (.struct [("A", some (.slice [.ptr (.struct [("B", some (.str "x"))]),
                                                               .ptr (.struct [("B", some (.str "y"))])]))])) ["a", "b"] = (["x", "y"], true) := by
  decide +kernel

end GcpVerif.KeyPath
