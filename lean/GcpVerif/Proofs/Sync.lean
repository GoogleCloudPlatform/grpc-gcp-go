/-
C10 — data-race freedom from the lock discipline.
`locksetOK_sound` is proved once, for every access table and every configuration of threads;
`c10_lockset` is the per-run obligation on the table regenerated from /repo's current sources.
-/
import GcpVerif.Proofs.SyncOrder
import GcpVerif.Generated.Consts
namespace GcpVerif.Sync

/-- a goroutine about to perform `acc`, with the mutexes it really holds -/
structure Thread where
  acc : Access
  heldW : List String
  heldR : List String

/-- the extractor's must-hold sets are sound for this thread -/
def Faithful (t : Thread) : Prop :=
  (∀ m ∈ t.acc.w, m ∈ t.heldW) ∧ (∀ m ∈ t.acc.r, m ∈ t.heldR ∨ m ∈ t.heldW)

/-- mutual exclusion of sync.Mutex / sync.RWMutex: a mutex held exclusively by one goroutine is not
    held in any mode by another -/
def Excl (t1 t2 : Thread) : Prop :=
  (∀ m ∈ t1.heldW, m ∉ t2.heldW ∧ m ∉ t2.heldR) ∧ (∀ m ∈ t2.heldW, m ∉ t1.heldW ∧ m ∉ t1.heldR)

theorem writer_excludes {t1 t2 : Thread} {m : String} (f1 : Faithful t1) (f2 : Faithful t2)
    (hex : ∀ m ∈ t1.heldW, m ∉ t2.heldW ∧ m ∉ t2.heldR) (hw : m ∈ t1.acc.w)
    (h2 : m ∈ t2.acc.w ∨ m ∈ t2.acc.r) : False := by
  have hnot := hex m (f1.1 m hw)
  rcases h2 with h | h
  · exact hnot.1 (f2.1 m h)
  · exact (f2.2 m h).elim hnot.2 hnot.1

/-- **C10 (soundness)** if the table passes the lockset obligation, then in no configuration are two
    goroutines simultaneously at conflicting accesses that may run concurrently — unless both
    accesses are atomic or the pair is a write-once publication. Hence no data race. -/
theorem locksetOK_sound (once : List String) (accs : List Access) (hok : locksetOK once accs = true)
    (t1 t2 : Thread) (h1 : t1.acc ∈ accs) (h2 : t2.acc ∈ accs) (f1 : Faithful t1) (f2 : Faithful t2)
    (hex : Excl t1 t2) (hc : conflicting t1.acc t2.acc = true) (hm : mayRunConcurrently t1.acc t2.acc = true) :
    (t1.acc.atomic = true ∧ t2.acc.atomic = true) ∨ onceExempt once t1.acc t2.acc = true := by
  have hp : pairOK once t1.acc t2.acc = true := by
    simp only [locksetOK, List.all_eq_true] at hok
    exact hok _ h1 _ h2
  simp only [pairOK, hc, hm, Bool.and_self, Bool.not_true, Bool.false_or, Bool.or_eq_true, Bool.and_eq_true] at hp
  rcases hp with (hp | hp) | hp
  · exact Or.inl hp
  · -- a common mutex, which the writer of the pair holds exclusively
    exfalso
    simp only [commonLock, List.any_eq_true, List.mem_append, Bool.and_eq_true, Bool.or_eq_true,
      Bool.not_eq_true', Access.holds, List.contains_iff_mem] at hp
    obtain ⟨m, hm1, ⟨hm2, ha⟩, hb⟩ := hp
    simp only [conflicting, Bool.and_eq_true, Bool.or_eq_true] at hc
    rcases hc.2 with hw | hw
    · exact writer_excludes f1 f2 hex.1 (by simpa [hw] using ha) hm2
    · exact writer_excludes f2 f1 hex.2 (by simpa [hw] using hb) hm1
  · exact Or.inr hp

/-- the write-once side condition holds in the current sources -/
theorem once_side_condition : GcpVerif.Generated.clientStreamWrittenOnlyWhenNil = true := by decide

def code (s : String) : Nat := s.toByteArray.data.toList.foldl (fun n b => 256 * n + b.toNat) 1

/-- the table cut into runs of adjacent accesses to fields of the same code -/
def runs : List Access → List (Nat × List Access)
  | [] => []
  | a :: l => match runs l with
    | (c, g) :: rs => if code a.field = c then (c, a :: g) :: rs else (code a.field, [a]) :: (c, g) :: rs
    | [] => [(code a.field, [a])]

/-- `locksetOK` as the kernel evaluates it. A pair of accesses to different fields passes (`pairOK_of_field_ne`),
    so only pairs from runs with the same code are examined; how the table is ordered decides the cost alone,
    `locksetOK_of_fastOK` assumes nothing of it. Codes are numbers because the kernel compares two string
    literals byte by byte, and the double loop of `locksetOK` compares the names of every pair. -/
def fastOK (once : List String) (accs : List Access) : Bool :=
  (runs accs).all fun r => (runs accs).all fun r' =>
    r.1 != r'.1 || r.2.all fun a => r'.2.all fun b => pairOK once a b

theorem pairOK_of_field_ne {once a b} (h : a.field ≠ b.field) : pairOK once a b = true := by
  simp [pairOK, conflicting, h]

theorem runs_cons (a : Access) (l : List Access) : ∃ g rs, runs (a :: l) = (code a.field, a :: g) :: rs ∧
    ∀ r ∈ runs l, r ∈ rs ∨ r = (code a.field, g) := by
  rw [runs]
  cases runs l with
  | nil => exact ⟨[], [], rfl, nofun⟩
  | cons p rs =>
    obtain ⟨c, g⟩ := p
    show ∃ g' rs', (if code a.field = c then _ else _) = _ ∧ _
    by_cases hc : code a.field = c
    · rw [if_pos hc, hc]
      exact ⟨g, rs, rfl, fun r hr => (List.mem_cons.1 hr).symm⟩
    · rw [if_neg hc]
      exact ⟨[], (c, g) :: rs, rfl, fun r hr => .inl hr⟩

theorem mem_runs {a : Access} {l : List Access} (h : a ∈ l) : ∃ r ∈ runs l, a ∈ r.2 ∧ r.1 = code a.field := by
  induction l with
  | nil => cases h
  | cons b l ih =>
    obtain ⟨g, rs, e, hrs⟩ := runs_cons b l
    rw [e]
    rcases List.mem_cons.1 h with rfl | h
    · exact ⟨_, List.mem_cons_self, List.mem_cons_self, rfl⟩
    · obtain ⟨r, hr, har, hc⟩ := ih h
      rcases hrs r hr with hr | rfl
      · exact ⟨r, List.mem_cons_of_mem _ hr, har, hc⟩
      · exact ⟨_, List.mem_cons_self, List.mem_cons_of_mem _ har, hc⟩

theorem locksetOK_of_fastOK {once accs} (h : fastOK once accs = true) : locksetOK once accs = true := by
  simp only [locksetOK, List.all_eq_true]
  intro a ha b hb
  by_cases e : a.field = b.field
  · obtain ⟨r, hr, har, hc⟩ := mem_runs ha
    obtain ⟨r', hr', hbr, hc'⟩ := mem_runs hb
    simp only [fastOK, List.all_eq_true, Bool.or_eq_true, bne_iff_ne] at h
    rcases h r hr r' hr' with h | h
    · exact absurd (by rw [hc, hc', e]) h
    · exact h a har b hbr
  · exact pairOK_of_field_ne e

/-- **C10 (per run)** the access table extracted from the current working tree passes -/
theorem c10_lockset : locksetOK ["ClientStream"] GcpVerif.Generated.accesses = true :=
  locksetOK_of_fastOK (by decide +kernel)

/-- **C06 (per run)** the acquisition order of the current sources is acyclic
    (gb.pickMu < gb.mu < ref.mu; gme.mu < me.mu) -/
theorem c06_order_acyclic : orderAcyclic GcpVerif.Generated.acquisitions = true :=
  orderAcyclic_of_certified c06_order_certified

/-- **C06 (per run)** no call path of the current sources acquires a mutex it may already hold -/
theorem c06_no_self_acquire : noSelfAcquire GcpVerif.Generated.acquisitions = true :=
  noSelfAcquire_of_acyclic c06_order_acyclic

end GcpVerif.Sync
