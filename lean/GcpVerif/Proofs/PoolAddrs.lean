/-
C20 at Reach level: after every history, every connection of the pool and every replacement
connection of a refresh in flight was last given the most recently resolved address list.
-/
import GcpVerif.Proofs.PoolStages
namespace GcpVerif.Pool

/-- connections the balancer holds: pool members and replacements of refreshes in flight -/
def live (s : St) (sc : Sc) : Prop := sc ∈ keys s.scRefs ∨ sc ∈ keys s.refreshingMap

/-- the address list last given to every live connection is the current one -/
def AddrsCur (s : St) : Prop := ∀ sc, live s sc → lookup s.scAddrs sc = some s.addrs

/-- a step that keeps the resolved list: live connections are old ones with their addresses
    untouched, or carry the current list -/
def Grow (s s' : St) : Prop :=
  s'.addrs = s.addrs ∧
  ∀ sc, live s' sc → (live s sc ∧ lookup s'.scAddrs sc = lookup s.scAddrs sc) ∨ lookup s'.scAddrs sc = some s'.addrs

theorem Grow.refl (s : St) : Grow s s := ⟨rfl, fun _ h => Or.inl ⟨h, rfl⟩⟩

theorem Grow.trans {a b c : St} (h1 : Grow a b) (h2 : Grow b c) : Grow a c := by
  refine ⟨h2.1.trans h1.1, fun sc hl => ?_⟩
  rcases h2.2 sc hl with ⟨hb, e2⟩ | e2
  · rcases h1.2 sc hb with ⟨ha, e1⟩ | e1
    · exact Or.inl ⟨ha, e2.trans e1⟩
    · right; rw [e2, e1, h2.1]
  · exact Or.inr e2

theorem addrsCur_of_grow {s s' : St} (h : AddrsCur s) (g : Grow s s') : AddrsCur s' := by
  intro sc hl
  rcases g.2 sc hl with ⟨hs, e⟩ | e
  · rw [e, h sc hs, g.1]
  · exact e

theorem grow_of_sub {s s' : St} (ha : s'.addrs = s.addrs) (hm : s'.scAddrs = s.scAddrs)
    (hl : ∀ sc, live s' sc → live s sc) : Grow s s' :=
  ⟨ha, fun sc h => Or.inl ⟨hl sc h, by rw [hm]⟩⟩

theorem grow_give {s s' : St} (scs : List Sc) (ha : s'.addrs = s.addrs)
    (hm : s'.scAddrs = scs.foldl (fun m sc => insert m sc s.addrs) s.scAddrs)
    (hl : ∀ sc, live s' sc → sc ∈ scs ∨ live s sc) : Grow s s' := by
  refine ⟨ha, fun sc h => ?_⟩
  rw [hm, ha, lookup_foldl_insert]
  by_cases hx : sc ∈ scs
  · right; rw [if_pos hx]
  · left; rw [if_neg hx]; exact ⟨(hl sc h).resolve_left hx, rfl⟩

theorem live_addConn {s : St} {sc : Sc} (h : live s.addConn sc) : sc = s.nextSc ∨ live s sc :=
  h.elim (fun h => (mem_keys_insert.mp h).imp_right Or.inl) (fun h => Or.inr (Or.inr h))

theorem grow_addConn (s : St) : Grow s s.addConn :=
  grow_give [s.nextSc] rfl rfl fun _ h => (live_addConn h).imp_left (List.mem_singleton.mpr ·)

theorem grow_updateAll (s : St) (scs : List Sc) : Grow s (updateAll s scs).1 := by
  rw [updateAll_fst]; exact grow_give scs rfl rfl fun _ h => Or.inr h

theorem grow_frame {s : St} {scRefs : List (Sc × Slot)} (hk : ∀ x ∈ keys scRefs, x ∈ keys s.scRefs)
    {cfgIn cfg nReady nConn nTF aggr affinity fallback scStates refs rr picker nextSc failN removed published now calls waiters
      held} :
    Grow s { s with cfgIn, cfg, nReady, nConn, nTF, aggr, affinity, fallback, scStates, refs, rr, picker, nextSc, failN, removed,
                    published, now, calls, waiters, held, scRefs } :=
  grow_of_sub rfl rfl fun x h => h.imp_left (hk x)

theorem grow_startRefresh (s : St) (slot : Slot) : Grow s (s.startRefresh slot) :=
  grow_give [s.nextSc] rfl rfl fun _ h => h.elim (fun h => Or.inr (Or.inl h))
    fun h => (mem_keys_insert.mp h).imp (List.mem_singleton.mpr ·) Or.inr

theorem grow_swapped {s : St} {sc : Sc} {slot : Slot} (hl : lookup s.refreshingMap sc = some slot) (old : Sc) :
    Grow s (s.swapped sc slot old) := by
  refine grow_of_sub rfl rfl fun x h => ?_
  rcases h with h | h
  · rcases mem_keys_insert.mp h with h | h
    · exact Or.inr (h ▸ mem_keys_of_lookup hl)
    · exact Or.inl (mem_keys_erase h)
  · exact Or.inr (mem_keys_erase h)

theorem grow_stage {s0 s s' : St} {op : Op} (hop : ∀ v, op ≠ .ccs v) (st : Stage s0 op s s') : Grow s s' := by
  cases st with
  | setAddrs v | setCfg v | updateAll v => exact absurd rfl (hop v)
  | addConn => exact grow_addConn s
  | startRefresh id err reply slot => exact grow_startRefresh s slot
  | swap sc order slot r hl hg => exact grow_swapped hl _
  | record sc st _ oldS | publish sc st _ oldS => exact grow_frame fun _ => mem_keys_recorded _ sc oldS st
  | _ => exact grow_frame fun _ h => h

theorem addSubConn_spec (s : St) : Grow s (addSubConn s).1 ∧
    ∀ x, live (addSubConn s).1 x → live s x ∨ Event.connect x ∈ (addSubConn s).2.2 := by
  rcases addSubConn_cases s with e | ⟨_, e⟩ | ⟨_, _, e⟩ <;> rw [e]
  · exact ⟨Grow.refl s, fun _ => Or.inl⟩
  · exact ⟨grow_of_sub rfl rfl fun _ h => h, fun _ => Or.inl⟩
  · exact ⟨grow_addConn s, fun x hl => (live_addConn hl).symm.imp_right fun h => by simp [h]⟩

theorem enforce_spec (min fuel : Nat) (s : St) : Grow s (enforceMinSize s min fuel).1 ∧
    ∀ x, live (enforceMinSize s min fuel).1 x → live s x ∨ Event.connect x ∈ (enforceMinSize s min fuel).2 := by
  refine enforce_induct (R := fun s r => Grow s r.1 ∧ ∀ x, live r.1 x → live s x ∨ Event.connect x ∈ r.2)
    (fun s => ⟨Grow.refl s, fun _ h => Or.inl h⟩) (fun s s1 ev _ e => ?_) (fun s s1 ev r _ e ih => ?_) fuel s
  all_goals have h1 := addSubConn_spec s; rw [e] at h1
  · exact h1
  · refine ⟨h1.1.trans ih.1, fun x hx => ?_⟩
    rcases ih.2 x hx with h | h
    · exact (h1.2 x h).imp_right fun h => List.mem_append_left _ h
    · exact Or.inr (List.mem_append_right _ h)

theorem live_in_targets (s : St) (sc : Sc) (h : live s sc) : sc ∈ ccsTargets s := by
  unfold ccsTargets sortedKeys
  split
  · rename_i he
    refine List.mem_mergeSort.mpr (h.resolve_left fun h => ?_)
    simp [List.isEmpty_iff.mp he, keys] at h
  · simp only [List.mem_mergeSort, List.mem_append]; exact h.symm

theorem updateAll_targets (s : St) : AddrsCur (updateAll s (ccsTargets s)).1 ∧
    ∀ sc, live (updateAll s (ccsTargets s)).1 sc → Event.connect sc ∈ (updateAll s (ccsTargets s)).2 := by
  rw [updateAll_fst, updateAll_snd]
  exact ⟨fun sc hl => (lookup_foldl_insert ..).trans (if_pos (live_in_targets s sc hl)),
    fun sc hl => List.mem_flatMap.mpr ⟨sc, live_in_targets s sc hl, List.mem_cons_of_mem _ List.mem_cons_self⟩⟩

theorem opCcs_spec (s : St) (ver : Nat) : (opCcs s ver).1.addrs = ver ∧ AddrsCur (opCcs s ver).1 ∧
    ∀ sc, live (opCcs s ver).1 sc → Event.connect sc ∈ (opCcs s ver).2 := by
  unfold opCcs
  have h1 : (ccsConfigure { s with addrs := ver }).1.addrs = ver := by
    unfold ccsConfigure; split
    · rfl
    · exact (enforce_spec _ _ _).1.1
  generalize ccsConfigure { s with addrs := ver } = r1 at h1 ⊢
  obtain ⟨s1, ev0⟩ := r1
  dsimp only at h1 ⊢
  -- the update reaches every connection held at that moment …
  have h2 := updateAll_targets s1
  have h2a : (updateAll s1 (ccsTargets s1)).1.addrs = ver := (grow_updateAll s1 _).1.trans h1
  generalize updateAll s1 (ccsTargets s1) = r2 at h2 h2a ⊢
  obtain ⟨s2, ev1⟩ := r2
  dsimp only at h2 h2a ⊢
  by_cases he : s2.scRefs.isEmpty = true
  · rw [if_pos he]
    -- … and those with which an empty pool is filled afterwards are created with the new list
    have h3 := enforce_spec (match s2.cfg with | some c => c.min | none => 1) (match s2.cfg with | some c => c.min | none => 1) s2
    generalize enforceMinSize s2 _ _ = r3 at h3 ⊢
    refine ⟨h3.1.1.trans h2a, addrsCur_of_grow h2.1 h3.1, fun sc hl => ?_⟩
    rcases h3.2 sc hl with h | h
    · simp [h2.2 sc h]
    · simp [h]
  · rw [if_neg he]
    exact ⟨h2a, h2.1, fun sc hl => by simp [h2.2 sc hl]⟩

theorem grow_step {op : Op} (hop : ∀ v, op ≠ .ccs v) (s : St) : Grow s (step s op).1 :=
  step_induct op (fun st h => h.trans (grow_stage hop st)) (Grow.refl s)

/-- a resolver update is taken as a whole (`opCcs_spec`): between its stages `setAddrs` and `updateAll` the address
    table is stale, so `AddrsCur` is not kept stage by stage; every other operation goes by `grow_stage` -/
theorem addrsCur_step {s : St} (h : AddrsCur s) (op : Op) : AddrsCur (step s op).1 := by
  by_cases hop : ∃ v, op = .ccs v
  · obtain ⟨v, rfl⟩ := hop
    exact step_of_core _ (fun _ _ _ h => addrsCur_of_grow h (grow_frame fun _ h => h)) (opCcs_spec s v).2.1
  · exact addrsCur_of_grow h (grow_step (fun v hv => hop ⟨v, hv⟩) s)

theorem addrsCur_init (ci : CfgInput) : AddrsCur (init ci) := fun sc hl => by simp [live, init, keys] at hl

theorem addrsCur_run (ci : CfgInput) (ops : List Op) : AddrsCur (run (init ci) ops) :=
  run_induct ci (addrsCur_init ci) (fun _ op h => addrsCur_step h op) ops

/-- **C20** after every history, every connection that belongs to the pool — including those added
    by growth and by re-creating an emptied pool — and every replacement connection of a refresh
    still in flight (so also from the moment it takes over its channel) was last given the most
    recently resolved address list -/
theorem addrs_current (ci : CfgInput) (ops : List Op) (sc : Sc)
    (h : sc ∈ keys (run (init ci) ops).scRefs ∨ sc ∈ keys (run (init ci) ops).refreshingMap) :
    lookup (run (init ci) ops).scAddrs sc = some (run (init ci) ops).addrs :=
  addrsCur_run ci ops sc h

/-- **C20** a resolver update asks every connection the balancer then holds to (re)connect -/
theorem ccs_connects_all (s : St) (ver : Nat) (sc : Sc) (hl : live (opCcs s ver).1 sc) :
    Event.connect sc ∈ (opCcs s ver).2 :=
  (opCcs_spec s ver).2.2 sc hl

/-- the address list in force is the one of the last resolver update -/
theorem ccs_sets_addrs (s : St) (ver : Nat) : (stepCore s (.ccs ver)).1.addrs = ver :=
  (opCcs_spec s ver).1

/-- non-vacuity: after two resolver updates the pool has a connection, and it carries list 2 -/
example : (run (init .absent) [.ccs 1, .scs 0 .ready [0], .ccs 2]).scAddrs = [(0, 2)] ∧
    keys (run (init .absent) [.ccs 1, .scs 0 .ready [0], .ccs 2]).scRefs = [0] := by decide +kernel

end GcpVerif.Pool
